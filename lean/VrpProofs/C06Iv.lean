import VrpModel.C06Iv
import VrpProofs.C06
import VrpProofs.C06Cap
import VrpProofs.C06CapVec
/-!
# C06 on tours with reload markers: the interval capacity test is sound

SPEC: `C06Iv.capOkIv` — the step-by-step simulation with explicit reload events (three-part board).
MODEL: `C06Iv.capViolationAtIv` — `has_demand_violation` on the per-interval caches of `recalculate_states`
(`C06Iv.loadCachesIv`, carried load included).

In one capacity dimension the SPEC loads ARE the model's `current` values, an insertion changes one segment only, and on
that segment the single-interval argument `C06Cap.cap_sound_forall` applies with the capacity lowered by the carried
load; component `k` of the vector model is the one-dimensional model.
-/

namespace C06Iv
open Route C06 C06Cap

/-! ## one dimension -/

def zero1 : Dem1 := ⟨0, 0, 0, 0⟩

def sumSp1 (seg : List Dem1) : Int := (seg.map (·.sp)).sum

/-- loads of consecutive segments; the first one is entered with base load `B` (the load without the static deliveries
    still to be delivered) and `P` static pickups already collected; the next ones with the carried load and `P = 0`
    (a reload unloads the pickups) -/
def curG : List (List Dem1) → Int → Int → List Int
  | [], _, _ => []
  | seg :: rest, B, P =>
    after1 (B + startLoad1 seg) seg ++ curG rest (B + startLoad1 seg + total seg - (P + sumSp1 seg)) 0

structure Caches1 where
  cur : List Int
  past : List Int
  fut : List Int

/-- one-dimensional `loadCachesIv` -/
def caches1 : List (List Dem1) → Int → Caches1
  | [], _ => ⟨[], [], []⟩
  | seg :: rest, carry =>
    let cur := after1 (carry + startLoad1 seg) seg
    let b := caches1 rest (carry + startLoad1 seg + total seg - sumSp1 seg)
    ⟨cur ++ b.cur, runMax1 0 cur ++ b.past, maxFuture1 cur ++ b.fut⟩

theorem caches1_cur (segs : List (List Dem1)) (carry : Int) : (caches1 segs carry).cur = curG segs carry 0 := by
  induction segs generalizing carry with
  | nil => rfl
  | cons seg rest ih =>
    simp only [caches1, curG, ih, Int.zero_add]

/-- one-dimensional SPEC -/
structure Board1 where
  toDeliver : Int
  picked : Int
  dyn : Int

def Board1.total (b : Board1) : Int := b.toDeliver + b.picked + b.dyn

def upcomingSd1 : List (Bool × Dem1) → Int
  | [] => 0
  | (true, _) :: _ => 0
  | (false, d) :: rest => d.sd + upcomingSd1 rest

def specLoads1 : List (Bool × Dem1) → Board1 → List Int
  | [], _ => []
  | (true, _) :: rest, b =>
    (Board1.mk (upcomingSd1 rest) 0 b.dyn).total :: specLoads1 rest (Board1.mk (upcomingSd1 rest) 0 b.dyn)
  | (false, d) :: rest, b =>
    (Board1.mk (b.toDeliver - d.sd) (b.picked + d.sp) (b.dyn + d.dp - d.dd)).total ::
      specLoads1 rest (Board1.mk (b.toDeliver - d.sd) (b.picked + d.sp) (b.dyn + d.dp - d.dd))

def capOkIv1 (cap : Int) (l : List (Bool × Dem1)) : Prop :=
  ∀ y ∈ (Board1.mk (upcomingSd1 l) 0 0).total :: specLoads1 l (Board1.mk (upcomingSd1 l) 0 0), y ≤ cap

theorem splitSegs_ne_nil {α : Type} (l : List (Bool × α)) : splitSegs l ≠ [] := by
  cases l with
  | nil => simp [splitSegs]
  | cons e rest =>
    obtain ⟨m, d⟩ := e
    simp only [splitSegs]
    split
    · simp
    · split <;> simp

theorem splitSegs_cons_eq {α : Type} {m : Bool} {d : α} {rest : List (Bool × α)} {seg : List α} {segs : List (List α)}
    (h : splitSegs rest = seg :: segs) :
    splitSegs ((m, d) :: rest) = if m then [] :: (d :: seg) :: segs else (d :: seg) :: segs := by
  simp only [splitSegs, h]

theorem splitSegs_cons {α : Type} (m : Bool) (d : α) (rest : List (Bool × α)) :
    ∃ seg segs, splitSegs rest = seg :: segs ∧
      splitSegs ((m, d) :: rest) = if m then [] :: (d :: seg) :: segs else (d :: seg) :: segs := by
  cases h : splitSegs rest with
  | nil => exact absurd h (splitSegs_ne_nil rest)
  | cons seg segs => exact ⟨seg, segs, rfl, splitSegs_cons_eq h⟩

theorem startLoad1_cons (d : Dem1) (seg : List Dem1) : startLoad1 (d :: seg) = d.sd + startLoad1 seg := by
  simp [startLoad1]
theorem sumSp1_cons (d : Dem1) (seg : List Dem1) : sumSp1 (d :: seg) = d.sp + sumSp1 seg := by
  simp [sumSp1]

theorem zero1_sd : zero1.sd = 0 := rfl
theorem zero1_sp : zero1.sp = 0 := rfl
theorem zero1_change : zero1.change = 0 := rfl

theorem upcomingSd1_eq (l : List (Bool × Dem1)) (seg : List Dem1) (segs : List (List Dem1))
    (h : splitSegs l = seg :: segs) : upcomingSd1 l = startLoad1 seg := by
  induction l generalizing seg segs with
  | nil => cases h; rfl
  | cons e rest ih =>
    obtain ⟨m, d⟩ := e
    obtain ⟨seg', segs', hr, hs⟩ := splitSegs_cons m d rest
    rw [hs] at h
    cases m with
    | true => cases h; rfl
    | false =>
      obtain ⟨rfl, -⟩ := List.cons.inj h
      rw [upcomingSd1, startLoad1_cons, ih seg' segs' hr]

/-! `curG` obeys the recursion of `specLoads1`, with `B` = picked + dyn and `P` = picked: -/

theorem curG_activity (d : Dem1) (seg : List Dem1) (segs : List (List Dem1)) (pk dy : Int) :
    curG ((d :: seg) :: segs) (pk + dy) pk
      = ((pk + d.sp) + (dy + d.dp - d.dd) + startLoad1 seg)
          :: curG (seg :: segs) ((pk + d.sp) + (dy + d.dp - d.dd)) (pk + d.sp) := by
  have e1 : pk + dy + (d.sd + startLoad1 seg) + d.change = (pk + d.sp) + (dy + d.dp - d.dd) + startLoad1 seg := by
    unfold Dem1.change; lia
  have e2 : pk + dy + (d.sd + startLoad1 seg) + (d.change + total seg) - (pk + (d.sp + sumSp1 seg))
      = (pk + d.sp) + (dy + d.dp - d.dd) + startLoad1 seg + total seg - (pk + d.sp + sumSp1 seg) := by
    unfold Dem1.change; lia
  simp only [curG, after1, startLoad1_cons, total_cons, sumSp1_cons, List.cons_append, e1, e2]

theorem curG_reload (seg : List Dem1) (segs : List (List Dem1)) (pk dy : Int) :
    curG ([] :: (zero1 :: seg) :: segs) (pk + dy) pk = (0 + dy + startLoad1 seg) :: curG (seg :: segs) (0 + dy) 0 := by
  have e := curG_activity zero1 seg segs 0 dy
  simp only [zero1, Int.add_zero, Int.sub_zero] at e
  rw [← e]
  show curG ((zero1 :: seg) :: segs) (pk + dy + 0 + 0 - (pk + 0)) 0 = _
  congr 1; lia

theorem specLoads1_eq (l : List (Bool × Dem1)) (hm : ∀ e ∈ l, e.1 = true → e.2 = zero1) (b : Board1)
    (hb : b.toDeliver = upcomingSd1 l) : specLoads1 l b = curG (splitSegs l) (b.picked + b.dyn) b.picked := by
  induction l generalizing b with
  | nil => rfl
  | cons e rest ih =>
    obtain ⟨m, d⟩ := e
    obtain ⟨seg, segs, hr, hs⟩ := splitSegs_cons m d rest
    have hU := upcomingSd1_eq rest seg segs hr
    have ih := fun b hb => hr ▸ ih (fun e he => hm e (List.mem_cons_of_mem _ he)) b hb
    rw [hs]
    cases m with
    | true =>
      obtain rfl : d = zero1 := hm _ (List.mem_cons_self ..) rfl
      rw [if_pos rfl, curG_reload, specLoads1, ih _ rfl, Board1.total, hU, Int.add_assoc, Int.add_comm]
    | false =>
      have hb' : b.toDeliver - d.sd = upcomingSd1 rest := by
        rw [hb, upcomingSd1, Int.add_comm, Int.add_sub_cancel]
      rw [if_neg Bool.false_ne_true, curG_activity, specLoads1, ih _ hb', Board1.total]
      show ((b.toDeliver - d.sd) + _ + _) :: _ = _
      rw [hb', hU, Int.add_assoc, Int.add_comm]

/-- **the loads of the step-by-step simulation with reload events are the `current` values of `recalculate_states`**
    (markers without demand) -/
theorem specLoads1_eq_curG (l : List (Bool × Dem1)) (hm : ∀ e ∈ l, e.1 = true → e.2 = zero1) (B P : Int) :
    specLoads1 l (Board1.mk (upcomingSd1 l) P (B - P)) = curG (splitSegs l) B P := by
  rw [specLoads1_eq l hm _ rfl]
  congr 1
  show P + (B - P) = B
  rw [Int.add_comm, Int.sub_add_cancel]

/-- insertion after the activity with (global) index `p`, in terms of segments -/
def insertSeg {α : Type} : List (List α) → Nat → α → List (List α)
  | [], _, _ => []
  | seg :: rest, p, x =>
    if p < seg.length then insertAt seg (p + 1) x :: rest else seg :: insertSeg rest (p - seg.length) x

theorem insertAt_cons_succ {α : Type} (a : α) (l : List α) (p : Nat) (x : α) :
    insertAt (a :: l) (p + 1) x = a :: insertAt l p x := by
  simp [insertAt]

theorem insertSeg_cons_succ {α : Type} (d : α) (seg : List α) (segs : List (List α)) (p : Nat) (x : α) :
    ∃ s ss, insertSeg (seg :: segs) p x = s :: ss ∧ insertSeg ((d :: seg) :: segs) (p + 1) x = (d :: s) :: ss := by
  by_cases h : p < seg.length
  · exact ⟨_, _, by rw [insertSeg, if_pos h],
      by rw [insertSeg, List.length_cons, if_pos (Nat.add_lt_add_right h 1), insertAt_cons_succ]⟩
  · exact ⟨_, _, by rw [insertSeg, if_neg h],
      by rw [insertSeg, List.length_cons, if_neg (fun h' => h (Nat.lt_of_add_lt_add_right h')), Nat.add_sub_add_right]⟩

theorem splitSegs_insert {α : Type} (L : List (Bool × α)) (p : Nat) (x : α) (hp : p < L.length) :
    splitSegs (insertAt L (p + 1) (false, x)) = insertSeg (splitSegs L) p x := by
  induction L generalizing p with
  | nil => exact absurd hp (Nat.not_lt_zero _)
  | cons e rest ih =>
    obtain ⟨m, d⟩ := e
    obtain ⟨seg, segs, hr, hs⟩ := splitSegs_cons m d rest
    rw [insertAt_cons_succ, hs]
    cases p with
    | zero =>
      rw [show insertAt rest 0 ((false, x) : Bool × α) = (false, x) :: rest from rfl,
        splitSegs_cons_eq (splitSegs_cons_eq hr)]
      cases m <;> rfl
    | succ p' =>
      obtain ⟨s, ss, h1, h2⟩ := insertSeg_cons_succ d seg segs p' x
      rw [splitSegs_cons_eq ((hr ▸ ih p' (Nat.lt_of_succ_lt_succ hp)).trans h1)]
      cases m with
      | false => rw [if_neg Bool.false_ne_true, if_neg Bool.false_ne_true, h2]
      | true => rw [if_pos rfl, if_pos rfl, insertSeg, List.length_nil, if_neg (Nat.not_lt_zero _), Nat.sub_zero, h2]

theorem getD_append_lt (a b : List Int) (p : Nat) (h : p < a.length) : (a ++ b).getD p 0 = a.getD p 0 := by
  simp [List.getD_eq_getElem?_getD, List.getElem?_append_left h]

theorem getD_append_ge (a b : List Int) (p : Nat) (h : a.length ≤ p) : (a ++ b).getD p 0 = b.getD (p - a.length) 0 := by
  simp [List.getD_eq_getElem?_getD, List.getElem?_append_right h]

theorem sum_map_insertAt1 (f : Dem1 → Int) (ds : List Dem1) (p : Nat) (x : Dem1) :
    ((insertAt1 ds p x).map f).sum = (ds.map f).sum + f x := by
  conv => rhs; rw [← List.take_append_drop p ds]
  simp only [insertAt1, List.map_append, List.sum_append, List.map_cons, List.sum_cons]
  omega

theorem total_insert (ds : List Dem1) (p : Nat) (x : Dem1) : total (insertAt1 ds p x) = total ds + x.change :=
  sum_map_insertAt1 _ ds p x

theorem sumSp1_insert (ds : List Dem1) (p : Nat) (x : Dem1) : sumSp1 (insertAt1 ds p x) = sumSp1 ds + x.sp :=
  sum_map_insertAt1 _ ds p x

/-- a demand whose dynamic parts cancel (a static one in particular) leaves the load carried out of its interval unchanged -/
theorem carry_insert_balanced (carry : Int) (ds : List Dem1) (p : Nat) (x : Dem1) (hbal : x.dp = x.dd) :
    carry + startLoad1 (insertAt1 ds p x) + total (insertAt1 ds p x) - sumSp1 (insertAt1 ds p x)
      = carry + startLoad1 ds + total ds - sumSp1 ds := by
  rw [startLoad1_insert, total_insert, sumSp1_insert, Dem1.change, hbal]
  lia

theorem seg_loads_shift (carry : Int) (r : List Dem1) :
    after1 (carry + startLoad1 (zero1 :: r)) (zero1 :: r) = (loads1 r).map (· + carry) := by
  simp only [after1, startLoad1_cons, zero1_sd, zero1_change, loads1, List.map_cons]
  rw [Int.zero_add, Int.add_zero, Int.add_comm, after1_shift]

theorem runMax1_shift (m c : Int) (ls : List Int) : runMax1 (m + c) (ls.map (· + c)) = (runMax1 m ls).map (· + c) := by
  induction ls generalizing m with
  | nil => rfl
  | cons l rest ih =>
    simp only [List.map_cons, runMax1]
    have e : max (m + c) (l + c) = max m l + c := by
      simp only [Int.max_def, Int.add_le_add_iff_right]
      split <;> rfl
    rw [e, ih]

/-- one interval entered with a carried load: `C06Cap.cap_sound_forall` with the capacity lowered by that load -/
theorem seg_sound (cap carry : Int) (r : List Dem1) (p : Nat) (x : Dem1) (hp : p ≤ r.length)
    (hok : ∀ y ∈ (loads1 r).map (· + carry), y ≤ cap)
    (hnv : viol1 cap ((runMax1 0 ((loads1 r).map (· + carry))).getD p 0)
      ((maxFuture1 ((loads1 r).map (· + carry))).getD p 0) (((loads1 r).map (· + carry)).getD p 0) x = false) :
    ∀ y ∈ (loads1 (insertAt1 r p x)).map (· + carry), y ≤ cap := by
  have hpL : p < ((loads1 r).map (· + carry)).length := by rw [List.length_map, loads1_length]; omega
  have hpast := runMax1_ge 0 _ p hpL
  have hfut := maxFuture1_ge _ p hpL
  rw [← List.map_take, loads1_take r p hp] at hpast
  rw [← List.map_drop, loads1_drop r p hp] at hfut
  have hcur : ((loads1 r).map (· + carry)).getD p 0 = startLoad1 r + total (r.take p) + carry := by
    rw [← loads1_getD r p hp, List.getD_eq_getElem?_getD, List.getD_eq_getElem?_getD, List.getElem?_map,
      List.getElem?_eq_getElem (by rwa [List.length_map] at hpL)]
    rfl
  rw [hcur] at hnv
  have hnew := cap_sound_forall (cap - carry) r p x
    (fun l hl => Int.le_sub_right_of_add_le (hok _ (List.mem_map_of_mem hl)))
    (noViolation_of_viol1 cap carry _ _ r p x (fun l hl => hpast _ (List.mem_map_of_mem hl))
      (fun l hl => hfut _ (List.mem_map_of_mem hl)) hnv)
  intro y hy
  obtain ⟨l, hl, rfl⟩ := List.mem_map.mp hy
  exact Int.add_le_of_le_sub_right (hnew l hl)

/-- **soundness at the level of segments (one dimension)**: a demand that leaves the carried load as it is and is accepted by
    `has_demand_violation` on the caches of the pivot keeps every load of every segment within capacity -/
theorem insertSeg_sound_balanced (cap : Int) (x : Dem1) (hbal : x.dp = x.dd) :
    ∀ (segs : List (List Dem1)) (carry : Int) (p : Nat),
      (∀ seg ∈ segs, ∃ r, seg = zero1 :: r) →
      p < (segs.map List.length).sum →
      (∀ y ∈ (caches1 segs carry).cur, y ≤ cap) →
      viol1 cap ((caches1 segs carry).past.getD p 0) ((caches1 segs carry).fut.getD p 0)
        ((caches1 segs carry).cur.getD p 0) x = false →
      ∀ y ∈ (caches1 (insertSeg segs p x) carry).cur, y ≤ cap := by
  intro segs
  induction segs with
  | nil => intro carry p _ hp; simp at hp
  | cons seg rest ih =>
    intro carry p hz hp hok hnv
    obtain ⟨r, rfl⟩ := hz _ (List.mem_cons_self ..)
    simp only [caches1, seg_loads_shift, List.forall_mem_append] at hok hnv
    have hlen : ((loads1 r).map (· + carry)).length = r.length + 1 := by rw [List.length_map, loads1_length]
    by_cases hlt : p < (zero1 :: r).length
    · have hlt' : p < ((loads1 r).map (· + carry)).length := by rw [hlen]; exact hlt
      rw [getD_append_lt _ _ p (by rwa [runMax1_length]), getD_append_lt _ _ p (by rwa [maxFuture1_length]),
        getD_append_lt _ _ p hlt'] at hnv
      simp only [insertSeg, if_pos hlt, caches1, List.forall_mem_append]
      rw [show insertAt (zero1 :: r) (p + 1) x = insertAt1 (zero1 :: r) (p + 1) x from rfl,
        carry_insert_balanced carry _ _ x hbal,
        show insertAt1 (zero1 :: r) (p + 1) x = zero1 :: insertAt1 r p x from rfl, seg_loads_shift]
      exact ⟨seg_sound cap carry r p x (Nat.le_of_lt_succ hlt) hok.1 hnv, hok.2⟩
    · have hge : ((loads1 r).map (· + carry)).length ≤ p := by rw [hlen]; exact Nat.le_of_not_lt hlt
      rw [getD_append_ge _ _ p (by rwa [runMax1_length]), getD_append_ge _ _ p (by rwa [maxFuture1_length]),
        getD_append_ge _ _ p hge, runMax1_length, maxFuture1_length, hlen] at hnv
      simp only [insertSeg, if_neg hlt, caches1, seg_loads_shift, List.forall_mem_append]
      exact ⟨hok.1, ih _ _ (fun s hs => hz s (List.mem_cons_of_mem _ hs))
        (Nat.sub_lt_left_of_lt_add (Nat.le_of_not_lt hlt) hp) hok.2 hnv⟩

theorem insertSeg_sound (cap : Int) (x : Dem1) (hdp : x.dp = 0) (hdd : x.dd = 0) :
    ∀ (segs : List (List Dem1)) (carry : Int) (p : Nat),
      (∀ seg ∈ segs, ∃ r, seg = zero1 :: r) →
      p < (segs.map List.length).sum →
      (∀ y ∈ (caches1 segs carry).cur, y ≤ cap) →
      viol1 cap ((caches1 segs carry).past.getD p 0) ((caches1 segs carry).fut.getD p 0)
        ((caches1 segs carry).cur.getD p 0) x = false →
      ∀ y ∈ (caches1 (insertSeg segs p x) carry).cur, y ≤ cap :=
  insertSeg_sound_balanced cap x (hdp.trans hdd.symm)

theorem upcomingSd1_append_zero (l : List (Bool × Dem1)) :
    upcomingSd1 (l ++ [(false, zero1)]) = upcomingSd1 l := by
  induction l with
  | nil => rfl
  | cons e rest ih =>
    obtain ⟨m, d⟩ := e
    cases m with
    | true => rfl
    | false => simp only [List.cons_append, upcomingSd1, ih]

/-- the arrival activity (no demand) repeats the last load -/
theorem mem_specLoads1_append_zero (l : List (Bool × Dem1)) (b : Board1) (y : Int) :
    y ∈ b.total :: specLoads1 (l ++ [(false, zero1)]) b ↔ y ∈ b.total :: specLoads1 l b := by
  induction l generalizing b with
  | nil => simp [specLoads1, Board1.total, zero1]
  | cons e rest ih =>
    obtain ⟨m, d⟩ := e
    cases m <;> simp only [List.cons_append, specLoads1, upcomingSd1_append_zero] <;>
      exact List.mem_cons.trans ((or_congr Iff.rfl (ih _)).trans List.mem_cons.symm)

/-- a marker opens a segment, and it has no demand -/
theorem splitSegs_tail_heads (L : List (Bool × Dem1)) (hm : ∀ e ∈ L, e.1 = true → e.2 = zero1) :
    ∀ seg ∈ (splitSegs L).tail, ∃ r, seg = zero1 :: r := by
  induction L with
  | nil => nofun
  | cons e rest ih =>
    obtain ⟨m, d⟩ := e
    obtain ⟨seg, segs, hr, hs⟩ := splitSegs_cons m d rest
    have ih := hr ▸ ih (fun e he => hm e (List.mem_cons_of_mem _ he))
    rw [hs]
    cases m with
    | false => exact ih
    | true =>
      obtain rfl : d = zero1 := hm _ (List.mem_cons_self ..) rfl
      exact List.forall_mem_cons.mpr ⟨⟨_, rfl⟩, ih⟩

theorem splitSegs_heads (L : List (Bool × Dem1)) (hm : ∀ e ∈ L, e.1 = true → e.2 = zero1) :
    ∀ seg ∈ splitSegs ((false, zero1) :: L), ∃ r, seg = zero1 :: r := by
  obtain ⟨seg, segs, hr, hs⟩ := splitSegs_cons false zero1 L
  have h := splitSegs_tail_heads L hm
  rw [hr] at h
  rw [hs]
  exact List.forall_mem_cons.mpr ⟨⟨_, rfl⟩, h⟩

theorem splitSegs_flatten {α : Type} (L : List (Bool × α)) : (splitSegs L).flatten = L.map (·.2) := by
  induction L with
  | nil => rfl
  | cons e rest ih =>
    obtain ⟨m, d⟩ := e
    obtain ⟨seg, segs, hr, hs⟩ := splitSegs_cons m d rest
    rw [hr] at ih
    rw [hs, List.map_cons, ← ih]
    cases m <;> rfl

theorem splitSegs_length_sum {α : Type} (L : List (Bool × α)) : ((splitSegs L).map List.length).sum = L.length := by
  rw [← List.length_flatten, splitSegs_flatten, List.length_map]

theorem forall_mem_splitSegs {α : Type} {P : α → Prop} {L : List (Bool × α)} (h : ∀ e ∈ L, P e.2) :
    ∀ seg ∈ splitSegs L, ∀ d ∈ seg, P d := by
  intro seg hseg d hd
  have hd' : d ∈ (splitSegs L).flatten := List.mem_flatten.mpr ⟨seg, hseg, hd⟩
  rw [splitSegs_flatten] at hd'
  obtain ⟨e, he, rfl⟩ := List.mem_map.mp hd'
  exact h e he

theorem insertAt_append_left {α : Type} (l E : List α) (p : Nat) (x : α) (hp : p ≤ l.length) :
    insertAt (l ++ E) p x = insertAt l p x ++ E := by
  unfold insertAt
  rw [List.take_append_of_le_length hp, List.drop_append_of_le_length hp]
  simp

theorem forall_mem_insertAt {α : Type} {P : α → Prop} {l : List α} {x : α} (h : ∀ e ∈ l, P e) (hx : P x) (p : Nat) :
    ∀ e ∈ insertAt l p x, P e :=
  fun e he => (mem_insertAt l p x e he).elim (fun hex => hex ▸ hx) (h e)

theorem markers_zero_all (l E : List (Bool × Dem1)) (hE : E = [] ∨ E = [(false, zero1)])
    (hm : ∀ e ∈ l, e.1 = true → e.2 = zero1) : ∀ e ∈ (false, zero1) :: (l ++ E), e.1 = true → e.2 = zero1 := by
  intro e he h1
  rcases List.mem_cons.mp he with rfl | he
  · cases h1
  · rcases List.mem_append.mp he with he | he
    · exact hm e he h1
    · rcases hE with rfl | rfl
      · cases he
      · obtain rfl := List.mem_singleton.mp he
        cases h1

theorem capOkIv1_iff_cur (cap : Int) (l E : List (Bool × Dem1)) (hE : E = [] ∨ E = [(false, zero1)])
    (hm : ∀ e ∈ l, e.1 = true → e.2 = zero1) :
    capOkIv1 cap l ↔ ∀ y ∈ (caches1 (splitSegs ((false, zero1) :: (l ++ E))) 0).cur, y ≤ cap := by
  have hU : upcomingSd1 (l ++ E) = upcomingSd1 l := by
    rcases hE with rfl | rfl
    · rw [List.append_nil]
    · exact upcomingSd1_append_zero l
  -- the departure has no demand: its step leaves the initial board as it is
  have hb : Board1.mk (upcomingSd1 ((false, zero1) :: (l ++ E)) - zero1.sd) (0 + zero1.sp) (0 - 0 + zero1.dp - zero1.dd)
      = Board1.mk (upcomingSd1 l) 0 0 := by
    simp only [upcomingSd1, hU, zero1, Int.zero_add, Int.sub_zero]
  rw [caches1_cur, ← specLoads1_eq_curG _ (markers_zero_all l E hE hm) 0 0, specLoads1, hb]
  rcases hE with rfl | rfl
  · rw [List.append_nil]; rfl
  · exact forall_congr' fun y => imp_congr_left (mem_specLoads1_append_zero l _ y).symm

/-- **soundness of the interval capacity test, one dimension**: the tour `l` (markers without demand) passes the SPEC with
    reload events; the model of `has_demand_violation`, fed with the caches of `recalculate_states` at the pivot `p`,
    accepts the static demand `x`; then the tour with `x` inserted at leg `p` passes the SPEC — in every interval -/
theorem capIv_sound1 (cap : Int) (l E : List (Bool × Dem1)) (hE : E = [] ∨ E = [(false, zero1)])
    (hm : ∀ e ∈ l, e.1 = true → e.2 = zero1) (p : Nat) (hp : p ≤ l.length)
    (x : Dem1) (hdp : x.dp = 0) (hdd : x.dd = 0)
    (hbase : capOkIv1 cap l)
    (hnv : viol1 cap ((caches1 (splitSegs ((false, zero1) :: (l ++ E))) 0).past.getD p 0)
                     ((caches1 (splitSegs ((false, zero1) :: (l ++ E))) 0).fut.getD p 0)
                     ((caches1 (splitSegs ((false, zero1) :: (l ++ E))) 0).cur.getD p 0) x = false) :
    capOkIv1 cap (insertAt l p (false, x)) := by
  have hp1 : p < ((false, zero1) :: (l ++ E)).length :=
    Nat.lt_succ_of_le (Nat.le_trans hp (List.length_append ▸ Nat.le_add_right _ _))
  have hnew := insertSeg_sound cap x hdp hdd _ 0 p
    (splitSegs_heads (l ++ E) fun e he => markers_zero_all l E hE hm e (List.mem_cons_of_mem _ he))
    (by rw [splitSegs_length_sum]; exact hp1) ((capOkIv1_iff_cur cap l E hE hm).mp hbase) hnv
  rw [← splitSegs_insert _ p x hp1, insertAt_cons_succ, insertAt_append_left l E p _ hp] at hnew
  exact (capOkIv1_iff_cur cap _ E hE (forall_mem_insertAt hm (fun h => absurd h Bool.false_ne_true) p)).mpr hnew

/-! ## any number of dimensions -/

def prT (k : Nat) (e : Bool × Dem) : Bool × Dem1 := (e.1, prD k e.2)

def WFB (n : Nat) (b : Board) : Prop := b.toDeliver.length = n ∧ b.picked.length = n ∧ b.dyn.length = n
def prB (k : Nat) (b : Board) : Board1 := ⟨pr k b.toDeliver, pr k b.picked, pr k b.dyn⟩

theorem upcomingSd_length (n : Nat) (zero : List Int) (hz : zero.length = n) (l : List (Bool × Dem))
    (hw : ∀ e ∈ l, WF n e.2) : (upcomingSd zero l).length = n := by
  induction l with
  | nil => exact hz
  | cons e rest ih =>
    obtain ⟨m, d⟩ := e
    cases m with
    | true => exact hz
    | false =>
      simp only [upcomingSd]
      exact vadd_length _ _ n (hw _ (List.mem_cons_self ..)).2.2.1 (ih (fun e he => hw e (List.mem_cons_of_mem _ he)))

theorem pr_upcomingSd (n k : Nat) (hk : k < n) (zero : List Int) (hz : zero.length = n) (hzk : pr k zero = 0)
    (l : List (Bool × Dem)) (hw : ∀ e ∈ l, WF n e.2) :
    pr k (upcomingSd zero l) = upcomingSd1 (l.map (prT k)) := by
  induction l with
  | nil => exact hzk
  | cons e rest ih =>
    obtain ⟨m, d⟩ := e
    cases m with
    | true => exact hzk
    | false =>
      have hw' : ∀ e ∈ rest, WF n e.2 := fun e he => hw e (List.mem_cons_of_mem _ he)
      simp only [upcomingSd, List.map_cons, prT, upcomingSd1]
      rw [pr_vadd _ _ n k (hw _ (List.mem_cons_self ..)).2.2.1 (upcomingSd_length n zero hz rest hw') hk, ih hw']
      rfl

theorem vfits_total_iff (n : Nat) (cap : List Int) (hc : cap.length = n) (b : Board) (hb : WFB n b) :
    vfits cap b.total = true ↔ ∀ k, k < n → (prB k b).total ≤ pr k cap := by
  have h12 := vadd_length _ _ n hb.1 hb.2.1
  rw [Board.total, vfits_iff cap _ n hc (vadd_length _ _ n h12 hb.2.2)]
  refine forall_congr' fun k => imp_congr_right fun hk => ?_
  rw [pr_vadd _ _ n k h12 hb.2.2 hk, pr_vadd _ _ n k hb.1 hb.2.1 hk]
  rfl

theorem simIv_iff (n : Nat) (cap zero : List Int) (hc : cap.length = n) (hz : zero.length = n)
    (hzk : ∀ k, pr k zero = 0) (l : List (Bool × Dem)) (hw : ∀ e ∈ l, WF n e.2) (b : Board) (hb : WFB n b) :
    (vfits cap b.total && simIv cap zero l b) = true ↔
      ∀ k, k < n → ∀ y ∈ (prB k b).total :: specLoads1 (l.map (prT k)) (prB k b), y ≤ pr k cap := by
  induction l generalizing b with
  | nil =>
    simp only [simIv, Bool.and_true, List.map_nil, specLoads1, List.mem_singleton, forall_eq]
    exact vfits_total_iff n cap hc b hb
  | cons e rest ih =>
    obtain ⟨m, d⟩ := e
    have hw' : ∀ e ∈ rest, WF n e.2 := fun e he => hw e (List.mem_cons_of_mem _ he)
    obtain ⟨b', hb', hsim, hspec⟩ : ∃ b', WFB n b' ∧
        simIv cap zero ((m, d) :: rest) b = (vfits cap b'.total && simIv cap zero rest b') ∧
        ∀ k, k < n → specLoads1 (((m, d) :: rest).map (prT k)) (prB k b)
          = (prB k b').total :: specLoads1 (rest.map (prT k)) (prB k b') := by
      cases m with
      | true =>
        refine ⟨⟨upcomingSd zero rest, zero, b.dyn⟩, ⟨upcomingSd_length n zero hz rest hw', hz, hb.2.2⟩, rfl, fun k hk => ?_⟩
        simp only [List.map_cons, prT, specLoads1, prB, pr_upcomingSd n k hk zero hz (hzk k) rest hw', hzk k]
      | false =>
        have hd := hw _ (List.mem_cons_self ..)
        refine ⟨⟨vsub b.toDeliver d.sd, vadd b.picked d.sp, vsub (vadd b.dyn d.dp) d.dd⟩,
          ⟨vsub_length _ _ n hb.1 hd.2.2.1, vadd_length _ _ n hb.2.1 hd.1,
            vsub_length _ _ n (vadd_length _ _ n hb.2.2 hd.2.1) hd.2.2.2⟩, rfl, fun k hk => ?_⟩
        simp only [List.map_cons, prT, specLoads1, prB, prD]
        rw [pr_vsub _ _ n k hb.1 hd.2.2.1 hk, pr_vadd _ _ n k hb.2.1 hd.1 hk,
          pr_vsub _ _ n k (vadd_length _ _ n hb.2.2 hd.2.1) hd.2.2.2 hk, pr_vadd _ _ n k hb.2.2 hd.2.1 hk]
    rw [hsim, Bool.and_eq_true, ih hw' b' hb', vfits_total_iff n cap hc b hb, ← forall_and]
    refine forall_congr' fun k => ?_
    rw [← imp_and]
    refine imp_congr_right fun hk => ?_
    rw [hspec k hk, List.forall_mem_cons (a := (prB k b).total)]

theorem capOkIv_iff (n : Nat) (cap : List Int) (hc : cap.length = n) (l : List (Bool × Dem)) (hw : ∀ e ∈ l, WF n e.2) :
    capOkIv cap l = true ↔ ∀ k, k < n → capOkIv1 (pr k cap) (l.map (prT k)) := by
  have hz : (cap.map (fun _ => (0 : Int))).length = n := by rw [List.length_map, hc]
  have hzk : ∀ k, pr k (cap.map (fun _ => (0 : Int))) = 0 := pr_zero cap
  simp only [capOkIv]
  rw [simIv_iff n cap _ hc hz hzk l hw _ ⟨upcomingSd_length n _ hz l hw, hz, hz⟩]
  refine forall_congr' fun k => imp_congr_right fun hk => ?_
  simp only [prB, pr_upcomingSd n k hk _ hz (hzk k) l hw, hzk k]
  rfl

theorem after1_getLast (s : Int) (ds : List Dem1) : ((after1 s ds).getLast?).getD s = s + total ds := by
  induction ds generalizing s with
  | nil => simp [after1, total]
  | cons d ds ih =>
    simp only [after1, List.getLast?_cons, Option.getD_some, ih, total_cons]
    omega

theorem foldl_sp_pr (n k : Nat) (hk : k < n) (ds : List Dem) (acc : List Int) (ha : acc.length = n)
    (hw : ∀ d ∈ ds, WF n d) :
    (ds.foldl (fun acc x => vadd acc x.sp) acc).length = n ∧
      pr k (ds.foldl (fun acc x => vadd acc x.sp) acc) = pr k acc + sumSp1 (ds.map (prD k)) := by
  induction ds generalizing acc with
  | nil => exact ⟨ha, (Int.add_zero _).symm⟩
  | cons d ds ih =>
    have hd := (hw d (List.mem_cons_self ..)).1
    obtain ⟨h1, h2⟩ := ih (vadd acc d.sp) (vadd_length _ _ n ha hd) (fun e he => hw e (List.mem_cons_of_mem _ he))
    refine ⟨h1, ?_⟩
    rw [List.foldl_cons, h2, pr_vadd _ _ n k ha hd hk, List.map_cons, sumSp1_cons, Int.add_assoc]
    rfl

/-- the vectors `ls` have `n` entries each and their `k`-th components are `xs` -/
def Proj (n k : Nat) (ls : List (List Int)) (xs : List Int) : Prop := (∀ l ∈ ls, l.length = n) ∧ ls.map (pr k) = xs

theorem Proj.append {n k : Nat} {ls ls' : List (List Int)} {xs xs' : List Int} (h : Proj n k ls xs)
    (h' : Proj n k ls' xs') : Proj n k (ls ++ ls') (xs ++ xs') :=
  ⟨List.forall_mem_append.mpr ⟨h.1, h'.1⟩, by rw [List.map_append, h.2, h'.2]⟩

theorem Proj.getLast {n k : Nat} {ls : List (List Int)} {xs : List Int} (h : Proj n k ls xs) {d : List Int}
    (hd : d.length = n) : (ls.getLast?.getD d).length = n ∧ pr k (ls.getLast?.getD d) = xs.getLast?.getD (pr k d) := by
  rw [← h.2, List.getLast?_map]
  cases hl : ls.getLast? with
  | none => exact ⟨hd, rfl⟩
  | some x => exact ⟨h.1 x (List.mem_of_getLast? hl), rfl⟩

theorem loadCachesIv_pr (n k : Nat) (hk : k < n) (zero : List Int) (hz : zero.length = n) (hzk : pr k zero = 0)
    (segs : List (List Dem)) (carry : List Int) (hcar : carry.length = n) (hw : ∀ seg ∈ segs, ∀ d ∈ seg, WF n d) :
    Proj n k (loadCachesIv zero segs carry).cur (caches1 (segs.map (·.map (prD k))) (pr k carry)).cur ∧
    Proj n k (loadCachesIv zero segs carry).past (caches1 (segs.map (·.map (prD k))) (pr k carry)).past ∧
    Proj n k (loadCachesIv zero segs carry).fut (caches1 (segs.map (·.map (prD k))) (pr k carry)).fut := by
  induction segs generalizing carry with
  | nil => exact ⟨⟨nofun, rfl⟩, ⟨nofun, rfl⟩, ⟨nofun, rfl⟩⟩
  | cons seg rest ih =>
    have hws := hw seg (List.mem_cons_self ..)
    have hst : (startLoad carry seg).length = n := foldl_sd_length n seg carry hcar hws
    have hstk : pr k (startLoad carry seg) = pr k carry + startLoad1 (seg.map (prD k)) :=
      pr_foldl_sd n k hk seg carry hcar hws
    have hcurLen := loadsAfter_lengths n seg _ hst hws
    have hcur : (loadsAfter (startLoad carry seg) seg).map (pr k)
        = after1 (pr k carry + startLoad1 (seg.map (prD k))) (seg.map (prD k)) := by
      rw [map_pr_loadsAfter n k hk seg _ hst hws, hstk]
    obtain ⟨hsp, hspk⟩ : (sumSp zero seg).length = n ∧ pr k (sumSp zero seg) = pr k zero + sumSp1 (seg.map (prD k)) :=
      foldl_sp_pr n k hk seg zero hz hws
    obtain ⟨hlastLen, hlast⟩ := Proj.getLast (k := k) ⟨hcurLen, hcur⟩ hst
    have hcarry : pr k (segCaches zero carry seg).2
        = pr k carry + startLoad1 (seg.map (prD k)) + total (seg.map (prD k)) - sumSp1 (seg.map (prD k)) := by
      simp only [segCaches]
      rw [pr_vsub _ _ n k hlastLen hsp hk, hlast, hstk, after1_getLast, hspk, hzk, Int.zero_add]
    obtain ⟨rc, rp, rf⟩ := ih (segCaches zero carry seg).2 (vsub_length _ _ n hlastLen hsp)
      (fun s hs => hw s (List.mem_cons_of_mem _ hs))
    rw [hcarry] at rc rp rf
    exact ⟨Proj.append ⟨hcurLen, hcur⟩ rc,
      Proj.append ⟨runMax_lengths n _ _ hz hcurLen, by rw [map_pr_runMax n k hk _ _ hz hcurLen, hzk, hcur]⟩ rp,
      Proj.append ⟨maxFuture_lengths n _ hcurLen, by rw [map_pr_maxFuture n k hk _ hcurLen, hcur]⟩ rf⟩

theorem splitSegs_map {α β : Type} (f : α → β) (L : List (Bool × α)) :
    splitSegs (L.map (fun e => (e.1, f e.2))) = (splitSegs L).map (·.map f) := by
  induction L with
  | nil => rfl
  | cons e rest ih =>
    obtain ⟨m, d⟩ := e
    obtain ⟨seg, segs, hr, hs⟩ := splitSegs_cons m d rest
    rw [hr] at ih
    rw [List.map_cons, splitSegs_cons_eq ih, hs]
    cases m <;> rfl

theorem WF_zeroDem (n : Nat) (zero : List Int) (hz : zero.length = n) : WF n (demOr zero none) := by
  simp [demOr, WF, hz]

theorem prD_zeroDem (k : Nat) (zero : List Int) (hzk : pr k zero = 0) : prD k (demOr zero none) = zero1 := by
  simp [demOr, prD, hzk, zero1]

/-- what `wfIv` says about the tagged tour: it is aligned with the tour, demand vectors have one entry per capacity
    dimension, a marker has no demand -/
theorem tagged_props (c : CtxIv) (hwf : wfIv c = true) :
    c.tagged.length = c.base.tour.length ∧
      ∀ e ∈ c.tagged, WF c.base.cap.length e.2 ∧ (e.1 = true → e.2 = c.zeroDem) := by
  simp only [wfIv, Bool.and_eq_true, beq_iff_eq] at hwf
  obtain ⟨⟨hlen, hall⟩, hmk⟩ := hwf
  refine ⟨by rw [CtxIv.tagged, List.length_zipWith, hlen, Nat.min_self], fun e he => ?_⟩
  -- both `zipWith`s run over the same pairs (activity, flag)
  rw [CtxIv.tagged, ← List.map_uncurry_zip_eq_zipWith] at he
  rw [← List.map_uncurry_zip_eq_zipWith] at hmk
  obtain ⟨⟨a, m⟩, ham, rfl⟩ := List.mem_map.mp he
  have h1 := List.all_eq_true.mp hall a (List.of_mem_zip ham).1
  have h2 : (!m || a.dem.isNone) = true := List.all_eq_true.mp hmk _ (List.mem_map_of_mem ham)
  show WF _ (demOr c.base.zero a.dem) ∧ (m = true → demOr c.base.zero a.dem = c.zeroDem)
  cases hd : a.dem with
  | none => exact ⟨WF_zeroDem _ _ (List.length_map _), fun _ => rfl⟩
  | some d =>
    rw [hd] at h1 h2
    refine ⟨(demWF_iff _ d).mp h1, fun hm => ?_⟩
    rw [hm] at h2
    cases h2
theorem allTagged_pr (c : CtxIv) (k : Nat) : ∃ E1 : List (Bool × Dem1), (E1 = [] ∨ E1 = [(false, zero1)]) ∧
    c.allTagged.map (prT k) = (false, zero1) :: (c.tagged.map (prT k) ++ E1) := by
  have hz1 : prT k (false, c.zeroDem) = (false, zero1) :=
    congrArg (Prod.mk false) (prD_zeroDem k c.base.zero (pr_zero c.base.cap k))
  refine ⟨(if c.base.veh.endAt.isSome then [(false, c.zeroDem)] else []).map (prT k), ?_, ?_⟩
  · split
    · exact Or.inr (by rw [List.map_singleton, hz1])
    · exact Or.inl rfl
  · rw [CtxIv.allTagged, List.map_cons, List.map_append, hz1]

theorem capViolationAtIv_pr (c : CtxIv) (k : Nat) (hk : k < c.base.cap.length)
    (hwT : ∀ e ∈ c.tagged, WF c.base.cap.length e.2) (p : Nat) (d : Dem) (hdW : WF c.base.cap.length d) (st : Bool)
    (hnv : capViolationAtIv c p (some d) st = none) :
    viol1 (pr k c.base.cap) ((caches1 (splitSegs (c.allTagged.map (prT k))) 0).past.getD p 0)
      ((caches1 (splitSegs (c.allTagged.map (prT k))) 0).fut.getD p 0)
      ((caches1 (splitSegs (c.allTagged.map (prT k))) 0).cur.getD p 0) (prD k d) = false := by
  have hz : c.zero.length = c.base.cap.length := List.length_map _
  have hzk : pr k c.zero = 0 := pr_zero c.base.cap k
  have hwAll : ∀ seg ∈ splitSegs c.allTagged, ∀ x ∈ seg, WF c.base.cap.length x := by
    apply forall_mem_splitSegs
    intro e he
    simp only [CtxIv.allTagged, List.mem_cons, List.mem_append] at he
    rcases he with rfl | he | he
    · exact WF_zeroDem _ _ hz
    · exact hwT e he
    · obtain rfl := List.mem_singleton.mp (List.mem_ite_nil_right.mp he).2
      exact WF_zeroDem _ _ hz
  obtain ⟨hC, hP, hF⟩ := loadCachesIv_pr c.base.cap.length k hk c.zero hz hzk (splitSegs c.allTagged) c.zero hz hwAll
  simp only [capViolationAtIv, CtxIv.caches, CtxIv.segs] at hnv
  have hv := viol1_of_vec c.base.cap.length k hk c.base.cap _ _ _ d st rfl
    (getD_lengths _ _ p _ hz hP.1) (getD_lengths _ _ p _ hz hF.1) (getD_lengths _ _ p _ hz hC.1) hdW hnv
  rw [pr_getD k _ p _ hzk, pr_getD k _ p _ hzk, pr_getD k _ p _ hzk, hP.2, hF.2, hC.2, hzk] at hv
  rwa [show (splitSegs c.allTagged).map (·.map (prD k)) = splitSegs (c.allTagged.map (prT k)) from
    (splitSegs_map (prD k) c.allTagged).symm] at hv

/-- **C06 soundness of the interval capacity test (any number of dimensions, executable model)**: a well-formed context
    whose tour passes the SPEC with reload events; the model of `has_demand_violation` on the caches of
    `recalculate_states` (carried load included) accepts the STATIC demand `d` at leg `p`; then the step-by-step simulation
    of the tour with `d` inserted at leg `p` stays within capacity at the departure, after every activity and after every
    reload, in every dimension. -/
theorem capIv_sound (c : CtxIv) (p : Nat) (d : Dem) (st : Bool)
    (hwf : wfIv c = true) (hd : demWF c.base.cap.length d = true) (hs : staticDem d = true)
    (hp : p ≤ c.base.tour.length)
    (hbase : capOkIv c.base.cap c.tagged = true)
    (hnv : capViolationAtIv c p (some d) st = none) :
    capOkIv c.base.cap (insertAt c.tagged p (false, d)) = true := by
  obtain ⟨hlenT, hT⟩ := tagged_props c hwf
  have hdW : WF c.base.cap.length d := (demWF_iff _ d).mp hd
  have hwT : ∀ e ∈ c.tagged, WF c.base.cap.length e.2 := fun e he => (hT e he).1
  rw [capOkIv_iff c.base.cap.length c.base.cap rfl _ (forall_mem_insertAt hwT hdW p)]
  intro k hk
  have hb1 := (capOkIv_iff c.base.cap.length c.base.cap rfl c.tagged hwT).mp hbase k hk
  have hm1 : ∀ e ∈ c.tagged.map (prT k), e.1 = true → e.2 = zero1 := by
    intro e he h1
    obtain ⟨e0, he0, rfl⟩ := List.mem_map.mp he
    have := (hT e0 he0).2 h1
    simp only [prT, this]
    exact prD_zeroDem k c.zero (pr_zero c.base.cap k)
  simp only [staticDem, Bool.and_eq_true, Bool.not_eq_true'] at hs
  obtain ⟨E1, hE1, hallT⟩ := allTagged_pr c k
  have hv := capViolationAtIv_pr c k hk hwT p d hdW st hnv
  rw [hallT] at hv
  rw [map_insertAt]
  exact capIv_sound1 (pr k c.base.cap) (c.tagged.map (prT k)) E1 hE1 hm1 p (by rw [List.length_map, hlenT]; exact hp)
    (prD k d) (vNotEmpty_false d.dp hs.1 k) (vNotEmpty_false d.dd hs.2 k) hb1 hv

/-! ## the scan -/

/-- `C06.Accepted` for the evaluator with intervals, with the leg in range (what `C06.evalTime_sound` asks for) -/
def AcceptedIv (c : CtxIv) (j : JobS) (f : Found) : Prop :=
  f.index < legCount c.base ∧
  ∃ p w, j.places[f.place]? = some p ∧ w ∈ p.tws ∧ f.tw = w ∧
    evalActivityIv c f.index { loc := p.loc, s := w.1, e := w.2, dur := p.dur } j.dem = .ok

def GoodScanIv (c : CtxIv) (j : JobS) (sc : Scan) : Prop := ∀ f, sc.best = some f → AcceptedIv c j f

theorem scanWindowsIv_eq (c : CtxIv) (j : JobS) (i pi : Nat) (p : JPlace) (ws : List (Int × Int)) (sc : Scan) :
    scanWindowsIv c j i pi p ws sc =
      scanList (fun w => winStep (evalActivityIv c i { loc := p.loc, s := w.1, e := w.2, dur := p.dur } j.dem)
        ⟨i, pi, w, costVector c.base i { loc := p.loc, s := w.1, e := w.2, dur := p.dur }⟩) ws sc := by
  induction ws generalizing sc with
  | nil => rfl
  | cons w ws ih =>
    rw [scanWindowsIv, scanList]
    dsimp only [winStep]
    cases evalActivityIv c i { loc := p.loc, s := w.1, e := w.2, dur := p.dur } j.dem with
    | fail => rfl
    | skip => exact ih _
    | ok =>
      simp only [Bool.false_eq_true, if_false]
      cases sc.best with
      | none => exact ih _
      | some b => dsimp only; split <;> exact ih _

theorem scanPlacesIv_eq (c : CtxIv) (j : JobS) (i : Nat) (ps : List JPlace) (pi : Nat) (sc : Scan) :
    scanPlacesIv c j i ps pi sc = scanList (fun q => scanWindowsIv c j i q.2 q.1 q.1.tws) (ps.zipIdx pi) sc := by
  induction ps generalizing pi sc with
  | nil => rfl
  | cons p ps ih =>
    rw [scanPlacesIv, List.zipIdx_cons, scanList]
    rcases scanWindowsIv c j i pi p p.tws sc with ⟨sc', _ | _⟩
    · exact ih _ _
    · rfl

theorem scanLegsIv_eq (c : CtxIv) (j : JobS) (is : List Nat) (sc : Scan) :
    scanLegsIv c j is sc = (scanList (fun i => scanPlacesIv c j i j.places 0) is sc).1 := by
  induction is generalizing sc with
  | nil => rfl
  | cons i is ih =>
    rw [scanLegsIv, scanList]
    rcases scanPlacesIv c j i j.places 0 sc with ⟨sc', _ | _⟩
    · exact ih _
    · rfl

theorem scanLegsIv_good (c : CtxIv) (j : JobS) (is : List Nat) (his : ∀ i ∈ is, i < legCount c.base) (sc : Scan)
    (h : GoodScanIv c j sc) : GoodScanIv c j (scanLegsIv c j is sc) := by
  rw [scanLegsIv_eq]
  refine scanList_keeps _ (GoodScanIv c j) _ (fun i hi sc h => ?_) sc h
  rw [scanPlacesIv_eq]
  refine scanList_keeps _ (GoodScanIv c j) _ (fun q hq sc h => ?_) sc h
  rw [scanWindowsIv_eq]
  refine scanList_keeps _ (GoodScanIv c j) _ (fun w hw sc h f hf => ?_) sc h
  rcases winStep_best _ _ sc with ⟨hb, _⟩ | ⟨hv, hb⟩
  · exact h f (hb ▸ hf)
  · obtain rfl := Option.some.inj (hb ▸ hf)
    exact ⟨his i hi, q.1, w, List.mem_zipIdx_iff_getElem?.mp hq, hw, rfl, hv⟩

/-- whatever the model of `eval_job_insertion_in_route` returns on a tour with markers was accepted by the constraint
    model at exactly that leg, place and window — for `Any` and every `Concrete(p)` -/
theorem evalJobIv_accepted (c : CtxIv) (j : JobS) (pos : Position) (f : Found)
    (h : evalJobIv c j pos = some f) : AcceptedIv c j f := by
  unfold evalJobIv at h
  split at h
  · cases h
  · refine scanLegsIv_good c j _ ?_ {} (by intro f hf; cases hf) f h
    intro i hi
    cases pos with
    | any => exact List.mem_range.mp hi
    | concrete q =>
      obtain ⟨hq, hiq⟩ := List.mem_ite_nil_right.mp hi
      exact List.mem_singleton.mp hiq ▸ hq

theorem evalActivityIv_ok (c : CtxIv) (i : Nat) (x : Act) (d : Option Dem) (h : evalActivityIv c i x d = .ok) :
    evalTime c.base.m.t c.base.veh c.base.acts i x = .ok ∧ capViolationAtIv c i d (!c.hasMarkers) = none := by
  unfold evalActivityIv at h
  split at h
  · cases h
  · cases h
  · refine ⟨‹_›, ?_⟩
    split at h
    · cases h
    · cases h
    · assumption

theorem vNotEmpty_zero (cap : List Int) : vNotEmpty (cap.map (fun _ => (0 : Int))) = false := by
  simp [vNotEmpty]

theorem zipWith_zero_zero (f : Int → Int → Int) (hf : f 0 0 = 0) (cap : List Int) :
    List.zipWith f (cap.map (fun _ => (0 : Int))) (cap.map (fun _ => (0 : Int))) = cap.map (fun _ => (0 : Int)) := by
  induction cap with
  | nil => rfl
  | cons a cap ih => rw [List.map_cons, List.zipWith_cons_cons, ih, hf]

theorem vadd_zero_zero (cap : List Int) :
    vadd (cap.map (fun _ => (0 : Int))) (cap.map (fun _ => (0 : Int))) = cap.map (fun _ => (0 : Int)) :=
  zipWith_zero_zero (· + ·) rfl cap

theorem vsub_zero_zero (cap : List Int) :
    vsub (cap.map (fun _ => (0 : Int))) (cap.map (fun _ => (0 : Int))) = cap.map (fun _ => (0 : Int)) :=
  zipWith_zero_zero (· - ·) rfl cap

/-- a job without demand is never refused by the capacity test (and is treated as the zero demand by the SPEC) -/
theorem capViolationAtIv_zeroDem (c : CtxIv) (i : Nat) (st : Bool) :
    capViolationAtIv c i (some (demOr c.base.zero none)) st = none := by
  simp only [capViolationAtIv, hasDemandViolation, demOr, Option.getD_none, Dem.change, Ctx.zero,
    vadd_zero_zero, vsub_zero_zero, vNotEmpty_zero]
  -- every clause is guarded by `vNotEmpty` of a zero vector
  simp only [Bool.false_and, Bool.false_eq_true, if_false]

/-- **C06 soundness on tours with reload markers, end to end for single-task jobs with static demand**: within the
    decidable hypotheses `soundHyps` (flags aligned, vectors of the right length, markers without demand, static
    candidate demand, base tour passes the SPEC), whatever the model of `eval_job_insertion_in_route` returns — for `Any`
    and every `Concrete(p)` — names a place and window of the job whose insertion passes the SPEC: the step-by-step time
    simulation and the step-by-step load simulation with reload events. -/
theorem evalJobIv_sound (c : CtxIv) (j : JobS) (pos : Position) (f : Found)
    (hyp : soundHyps c j = true) (h : evalJobIv c j pos = some f) :
    insertedFeasibleIv c j f.index f.place f.tw = true := by
  simp only [soundHyps, baseFeasibleIv, Bool.and_eq_true] at hyp
  obtain ⟨⟨hwf, hfeas, hcap⟩, hdem⟩ := hyp
  obtain ⟨hidx, p, w, hp, hw, hf, hok⟩ := evalJobIv_accepted c j pos f h
  have hi : f.index ≤ c.base.tour.length := by rw [legCount_eq] at hidx; exact Nat.le_of_lt_succ hidx
  have hia : f.index ≤ c.base.acts.length := by rw [Ctx.acts, List.length_map]; exact hi
  obtain ⟨hokT, hcapOk⟩ := evalActivityIv_ok c _ _ _ hok
  have htime := evalTime_sound c.base.m.t c.base.veh c.base.acts f.index _ hia hfeas hokT
  unfold insertedFeasibleIv
  rw [hp, hf]
  simp only [Bool.and_eq_true]
  refine ⟨htime, ?_⟩
  cases hd : j.dem with
  | none =>
    have hz : demWF c.base.cap.length (demOr c.base.zero none) = true :=
      (demWF_iff _ _).mpr (WF_zeroDem _ _ (List.length_map _))
    have hs : staticDem (demOr c.base.zero none) = true := by
      simp [staticDem, demOr, Ctx.zero, vNotEmpty_zero]
    exact capIv_sound c f.index _ true hwf hz hs hi hcap (capViolationAtIv_zeroDem c f.index true)
  | some d =>
    rw [hd] at hdem hcapOk
    simp only [Bool.and_eq_true] at hdem
    exact capIv_sound c f.index d _ hwf hdem.1 hdem.2 hi hcap hcapOk

/-! ## tours without markers -/

/-- the context of `VrpModel.C06` seen as a context with (no) markers -/
def noMarkers (c : Ctx) : CtxIv := { base := c, markers := c.tour.map (fun _ => false) }

theorem splitSegs_all_false {α : Type} (l : List α) : splitSegs (l.map (fun d => ((false, d) : Bool × α))) = [l] := by
  induction l with
  | nil => rfl
  | cons a l ih => simp [splitSegs, ih]

theorem allTagged_noMarkers (c : Ctx) :
    (noMarkers c).allTagged = (demOr c.zero none :: c.allDems).map (fun d => ((false, d) : Bool × Dem)) := by
  have ht : (noMarkers c).tagged = c.dems.map (fun d => ((false, d) : Bool × Dem)) := by
    rw [CtxIv.tagged, noMarkers, List.zipWith_map_right, List.zipWith_self, Ctx.dems, List.map_map]
    rfl
  rw [CtxIv.allTagged, ht, Ctx.allDems, List.map_cons, List.map_append, apply_ite (List.map _)]
  rfl

theorem segs_noMarkers (c : Ctx) : (noMarkers c).segs = [demOr c.zero none :: c.allDems] := by
  rw [CtxIv.segs, allTagged_noMarkers, splitSegs_all_false]

theorem vadd_zeros (st cap : List Int) (h : st.length ≤ cap.length) : vadd st (cap.map (fun _ => (0 : Int))) = st := by
  induction st generalizing cap with
  | nil => rfl
  | cons a st ih =>
    cases cap with
    | nil => exact absurd h (Nat.not_succ_le_zero _)
    | cons b cap =>
      show (a + 0) :: vadd st (cap.map (fun _ => (0 : Int))) = _
      rw [ih cap (Nat.le_of_succ_le_succ h), Int.add_zero]

theorem foldl_sd_length_le (ds : List Dem) (acc : List Int) :
    (ds.foldl (fun acc x => vadd acc x.sd) acc).length ≤ acc.length := by
  induction ds generalizing acc with
  | nil => exact Nat.le_refl _
  | cons d ds ih =>
    refine Nat.le_trans (ih (vadd acc d.sd)) ?_
    rw [vadd, List.length_zipWith]
    exact Nat.min_le_left _ _

theorem zeroDem_change (cap : List Int) :
    (demOr (cap.map (fun _ => (0 : Int))) none).change = cap.map (fun _ => (0 : Int)) := by
  simp only [demOr, Option.getD_none, Dem.change, vadd_zero_zero, vsub_zero_zero]

theorem caches_noMarkers (c : Ctx) :
    (noMarkers c).caches = { cur := (loadCaches c.zero c.allDems).1, past := (loadCaches c.zero c.allDems).2.1,
                             fut := (loadCaches c.zero c.allDems).2.2 } := by
  have hst : startLoad c.zero (demOr c.zero none :: c.allDems) = startLoad c.zero c.allDems := by
    simp only [startLoad, List.foldl_cons, demOr, Option.getD_none, Ctx.zero, vadd_zero_zero]
  have hle : (startLoad c.zero c.allDems).length ≤ c.cap.length :=
    Nat.le_trans (foldl_sd_length_le c.allDems c.zero) (Nat.le_of_eq (List.length_map _))
  have hcur : loadsAfter (startLoad c.zero (demOr c.zero none :: c.allDems)) (demOr c.zero none :: c.allDems)
      = loadProfile c.zero c.allDems := by
    have hch : (demOr c.zero none).change = c.zero := zeroDem_change c.cap
    have hz : vadd (startLoad c.zero c.allDems) c.zero = startLoad c.zero c.allDems := vadd_zeros _ c.cap hle
    rw [hst, loadsAfter, hch, hz]
    rfl
  rw [CtxIv.caches, segs_noMarkers]
  show loadCachesIv c.zero [demOr c.zero none :: c.allDems] c.zero = _
  simp only [loadCachesIv, segCaches, loadCaches, List.append_nil, hcur]

theorem capViolationAtIv_noMarkers (c : Ctx) (i : Nat) (x : Option Dem) (st : Bool) :
    capViolationAtIv (noMarkers c) i x st = capViolationAt c i x st := by
  cases x with
  | none => rfl
  | some d =>
    simp only [capViolationAtIv, capViolationAt, caches_noMarkers]
    rfl

theorem hasMarkers_noMarkers (c : Ctx) : (noMarkers c).hasMarkers = false := by
  rw [CtxIv.hasMarkers, segs_noMarkers]
  rfl

theorem evalActivityIv_noMarkers (c : Ctx) (i : Nat) (x : Act) (d : Option Dem) :
    evalActivityIv (noMarkers c) i x d = evalActivity c i x d := by
  simp only [evalActivityIv, evalActivity, hasMarkers_noMarkers, capViolationAtIv_noMarkers, Bool.not_false]
  rfl

theorem intervals_noMarkers (c : Ctx) :
    (noMarkers c).intervals = [(0, c.tour.length + (if c.veh.endAt.isSome then 1 else 0))] := by
  rw [CtxIv.intervals, segs_noMarkers]
  simp only [intervalsFrom, Ctx.allDems, Ctx.dems]
  cases c.veh.endAt.isSome <;> simp

theorem evalRouteIv_noMarkers (c : Ctx) (j : JobS) : evalRouteIv (noMarkers c) j = evalRoute c j := by
  simp only [evalRouteIv, evalRoute, intervals_noMarkers, List.any_cons, List.any_nil, Bool.or_false, bordersOk,
    capViolationAtIv_noMarkers]
  cases hd : j.dem with
  | none =>
    simp only [capViolationAt, noMarkers, Option.isNone_none, Bool.or_self]
    cases c.veh.endAt <;> rfl
  | some d =>
    simp only [noMarkers, CtxIv.zero]
    cases c.veh.endAt <;> rfl

theorem scanLegsIv_noMarkers (c : Ctx) (j : JobS) (is : List Nat) (sc : Scan) :
    scanLegsIv (noMarkers c) j is sc = scanLegs c j is sc := by
  have hw : ∀ i pi p ws, scanWindowsIv (noMarkers c) j i pi p ws = scanWindows c j i pi p ws := by
    intro i pi p ws
    funext sc
    rw [scanWindowsIv_eq, scanWindows_eq]
    simp only [evalActivityIv_noMarkers]
    rfl
  have hp : ∀ i, scanPlacesIv (noMarkers c) j i j.places 0 = scanPlaces c j i j.places 0 := by
    intro i
    funext sc
    rw [scanPlacesIv_eq, scanPlaces_eq]
    simp only [hw]
  rw [scanLegsIv_eq, scanLegs_eq]
  simp only [hp]

/-- **on a tour without markers the model with route intervals IS the model of `VrpModel.C06`** (every context, every job,
    `Any` and every `Concrete(p)`): everything proved about `C06.evalJob` carries over -/
theorem evalJobIv_noMarkers (c : Ctx) (j : JobS) (pos : Position) :
    evalJobIv (noMarkers c) j pos = evalJob c j pos := by
  simp only [evalJobIv, evalJob, evalRouteIv_noMarkers, scanLegsIv_noMarkers]
  rfl

/-! ## non-vacuity

Matrix: 3 locations, 5 between any two. Closed tour, shift end 200, capacity `[5]`, wide windows (time never decides). -/

def exM : Mat := { n := 3, dur := [0, 5, 5, 5, 0, 5, 5, 5, 0], dist := [0, 5, 5, 5, 0, 5, 5, 5, 0] }
def exP : JPlace := { loc := 1, dur := 1, tws := [(0, 180)] }

/-- A delivers `[5]` (static): the first interval leaves full. Reload. B picks up `[3]` (static). -/
def exC1 : CtxIv :=
  { base := { m := exM, veh := { startLoc := 0, earliest := 0, dep := 0, endAt := some (0, 200) }, cap := [5],
              costs := ⟨0, 1, 1⟩, obj := .distance,
              tour := [⟨{ loc := 1, s := 0, e := 100, dur := 1 }, some ⟨[0], [0], [5], [0]⟩⟩,
                       ⟨{ loc := 0, s := 0, e := 100, dur := 2 }, none⟩,
                       ⟨{ loc := 2, s := 0, e := 150, dur := 1 }, some ⟨[3], [0], [0], [0]⟩⟩] },
    markers := [false, true, false] }
/-- candidate: static delivery `[2]` -/
def exJ1 : JobS := { places := [exP], dem := some ⟨[0], [0], [2], [0]⟩ }

-- two intervals; the caches per activity (departure, A | marker, B, arrival)
example : exC1.intervals = [(0, 1), (2, 4)] ∧ exC1.caches.cur = [[5], [0], [0], [3], [3]] ∧
    exC1.caches.past = [[5], [5], [0], [3], [3]] ∧ exC1.caches.fut = [[5], [0], [3], [3], [3]] := by decide +kernel
-- **refused in the full interval (legs 0, 1: "skip", not "stop"), accepted after the reload (legs 2, 3)**
example : (List.range 4).map (fun i => capViolationAtIv exC1 i exJ1.dem (!exC1.hasMarkers)) = [some false, some false, none, none] := by
  decide +kernel
example : (List.range 4).map (fun i => (evalJobIv exC1 exJ1 (.concrete i)).isSome) = [false, false, true, true] := by decide +kernel
-- the step-by-step SPEC with reload events says the same, leg by leg
example : (List.range 4).map (fun i => insertedFeasibleIv exC1 exJ1 i 0 (0, 180)) = [false, false, true, true] := by decide +kernel
-- `Any` reports the first of the cheapest accepted legs (legs 2 and 3 both cost a detour of 5 + 5 − 5)
example : (evalJobIv exC1 exJ1 .any).map (fun f => (f.index, f.place, f.tw)) = some (2, 0, (0, 180)) := by decide +kernel
-- the hypotheses of `evalJobIv_sound` hold on this case: the theorem is not vacuous
example : soundHyps exC1 exJ1 = true := by decide +kernel
example : ∀ f, evalJobIv exC1 exJ1 .any = some f → insertedFeasibleIv exC1 exJ1 f.index f.place f.tw = true :=
  fun f h => evalJobIv_sound exC1 exJ1 .any f (by decide +kernel) h
-- the same tour with the marker flag off is ONE interval (start load `[5]`): the delivery is refused and the scan stops
example : evalJobIv { exC1 with markers := [false, false, false] } exJ1 .any = none := by decide +kernel

/-- A picks up a shipment `[4]` (dynamic), reload, B delivers it (dynamic), C has no demand: the load `[4]` is carried across
    the reload. -/
def exC2 : CtxIv :=
  { base := { m := exM, veh := { startLoc := 0, earliest := 0, dep := 0, endAt := some (0, 200) }, cap := [5],
              costs := ⟨0, 1, 1⟩, obj := .distance,
              tour := [⟨{ loc := 1, s := 0, e := 100, dur := 1 }, some ⟨[0], [4], [0], [0]⟩⟩,
                       ⟨{ loc := 0, s := 0, e := 100, dur := 2 }, none⟩,
                       ⟨{ loc := 2, s := 0, e := 150, dur := 1 }, some ⟨[0], [0], [0], [4]⟩⟩,
                       ⟨{ loc := 1, s := 0, e := 150, dur := 1 }, none⟩] },
    markers := [false, true, false, false] }

-- the load at the marker (index 2) is the carried shipment
example : exC2.intervals = [(0, 1), (2, 5)] ∧ exC2.caches.cur = [[0], [4], [4], [0], [0], [0]] ∧
    exC2.caches.past = [[0], [4], [4], [4], [4], [4]] := by decide +kernel
-- **the carried load makes the whole second interval refuse the static delivery `[2]`** (it would be loaded at the reload,
-- next to the shipment): only leg 0 accepts
example : (List.range 5).map (fun i => capViolationAtIv exC2 i exJ1.dem (!exC2.hasMarkers))
    = [none, some false, some false, some false, some false] := by decide +kernel
example : (List.range 5).map (fun i => insertedFeasibleIv exC2 exJ1 i 0 (0, 180)) = [true, false, false, false, false] := by
  decide +kernel
-- a static pickup `[2]` stays on board until the end of its trip: refused in the first interval (it would meet the shipment
-- after A) and before B, accepted after B
example : (List.range 5).map (fun i => (evalJobIv exC2 { exJ1 with dem := some ⟨[2], [0], [0], [0]⟩ } (.concrete i)).isSome)
    = [false, false, false, true, true] := by decide +kernel
example : (List.range 5).map (fun i => insertedFeasibleIv exC2 { exJ1 with dem := some ⟨[2], [0], [0], [0]⟩ } i 0 (0, 180))
    = [false, false, false, true, true] := by decide +kernel
-- without the shipment (A and B without demand) the second interval accepts the delivery
example : (List.range 5).map (fun i => (evalJobIv
      { exC2 with base := { exC2.base with tour := exC2.base.tour.map (fun a => { a with dem := none }) } } exJ1 (.concrete i)).isSome)
    = [true, true, true, true, true] := by decide +kernel

end C06Iv
