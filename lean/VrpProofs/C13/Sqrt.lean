import VrpModel.C13
import Mathlib.Data.Nat.Sqrt
import Mathlib.Tactic.Ring
/-!
# C13 — `roundSqrt` is the nearest integer to `√n`
-/

namespace C13

/-- `r` is the nearest integer to `√n`: `|r - √n| < 1/2`, i.e. `(2r-1)² < 4n < (2r+1)²`
    (the left inequality is void for `r = 0`, where `r - 1/2 < 0 ≤ √n`). -/
def IsNearestSqrt (n r : Nat) : Prop := 4 * n < (2 * r + 1) ^ 2 ∧ (r = 0 ∨ (2 * r - 1) ^ 2 < 4 * n)

theorem odd_sq (r : Nat) : (2 * r + 1) ^ 2 = 4 * (r * r + r) + 1 := by ring

theorem lt_odd_sq {n r : Nat} (h : n ≤ r * r + r) : 4 * n < (2 * r + 1) ^ 2 :=
  odd_sq r ▸ Nat.lt_succ_of_le (Nat.mul_le_mul_left 4 h)

theorem isNearestSqrt_succ {n r : Nat} (hlo : r * r + r < n) (hhi : n ≤ (r + 1) * (r + 1) + (r + 1)) :
    IsNearestSqrt n (r + 1) :=
  ⟨lt_odd_sq hhi, .inr (odd_sq r ▸ (by omega))⟩

theorem roundSqrt_isNearest (n : Nat) : IsNearestSqrt n (roundSqrt n) := by
  have h1 := Nat.sqrt_le n
  have h2 : n < (Nat.sqrt n + 1) * (Nat.sqrt n + 1) := Nat.lt_succ_sqrt n
  show IsNearestSqrt n (if n - Nat.sqrt n * Nat.sqrt n ≤ Nat.sqrt n then Nat.sqrt n else Nat.sqrt n + 1)
  generalize Nat.sqrt n = s at *
  split
  · next h =>
    have h' : n ≤ s * s + s := Nat.sub_le_iff_le_add'.mp h
    cases s with
    | zero => exact ⟨lt_odd_sq h', .inl rfl⟩
    | succ t =>
      rw [Nat.add_one_mul_add_one] at h1
      exact isNearestSqrt_succ (Nat.lt_of_lt_of_le (Nat.lt_succ_of_le (Nat.le_add_right _ t)) h1) h'
  · next h =>
    exact isNearestSqrt_succ (Nat.lt_of_not_le fun hle => h (Nat.sub_le_iff_le_add'.mpr hle))
      (Nat.le_add_right_of_le (Nat.le_of_lt h2))

/-- `r < r'` would give `4n < (2r+1)² ≤ (2r'-1)² < 4n` -/
theorem isNearestSqrt_not_lt {n r r' : Nat} (h : IsNearestSqrt n r) (h' : IsNearestSqrt n r') : ¬ r < r' := fun hlt =>
  have hlo := h'.2.resolve_left (Nat.ne_of_gt (Nat.zero_lt_of_lt hlt))
  have hle : 2 * r + 1 ≤ 2 * r' - 1 := Nat.le_sub_one_of_lt (Nat.mul_le_mul_left 2 hlt)
  Nat.lt_irrefl _ (Nat.lt_trans (Nat.lt_of_lt_of_le h.1 (Nat.pow_le_pow_left hle 2)) hlo)

theorem isNearestSqrt_unique (n r r' : Nat) (h : IsNearestSqrt n r) (h' : IsNearestSqrt n r') : r = r' :=
  Nat.le_antisymm (Nat.not_lt.mp (isNearestSqrt_not_lt h' h)) (Nat.not_lt.mp (isNearestSqrt_not_lt h h'))

/-- a tie `√n = r + 1/2` would need `4n = (2r+1)²`, an odd number -/
theorem no_sqrt_tie (n r : Nat) : 4 * n ≠ (2 * r + 1) ^ 2 := by
  rw [odd_sq]; omega

end C13
