import VrpProofs.C13.Instance
/-!
# C13 — TSPLIB: the reader model on a printed file is observed as the deliveries of the file's instance
-/

namespace C13

theorem amInsert_append {α : Type} (k : Int) (v : α) (m : List (Int × α)) (h : k ∉ m.map (·.1)) :
    amInsert k v m = m ++ [(k, v)] := by
  induction m with
  | nil => rfl
  | cons e m ih =>
    obtain ⟨k', v'⟩ := e
    simp only [List.map_cons, List.mem_cons, not_or] at h
    have hne : ¬ k' = k := fun hh => h.1 hh.symm
    simp only [amInsert, hne, if_false, List.cons_append, ih h.2]

/-- `rd`: `readCoords` or `readDemands`, one row per step into the hash map; with distinct keys the map keeps file order -/
theorem readSection_print {α : Type} (rd : Nat → List Line → List (Int × α) → Except Err (List (Int × α) × List Line))
    (pr : Int × α → Line) (h0 : ∀ ls m, rd 0 ls m = .ok (m, ls))
    (hs : ∀ k e rest m, rd (k + 1) (pr e :: rest) m = rd k rest (amInsert e.1 e.2 m))
    (l : List (Int × α)) (rest : List Line) (m : List (Int × α)) (h : ((m ++ l).map (·.1)).Nodup) :
    rd l.length (l.map pr ++ rest) m = .ok (m ++ l, rest) := by
  induction l generalizing m with
  | nil => rw [List.append_nil]; exact h0 _ _
  | cons e l ih =>
    rw [List.append_cons] at h ⊢
    have hk : e.1 ∉ m.map (·.1) := fun hmem => by
      rw [List.map_append, List.map_append, List.append_assoc, List.nodup_append] at h
      exact h.2.2 _ hmem _ List.mem_cons_self rfl
    rw [List.length_cons, List.map_cons, List.cons_append, hs, amInsert_append _ _ _ hk]
    exact ih _ h

theorem amGet_eq_assocFind {α : Type} (k : Int) (m : List (Int × α)) : amGet k m = assocFind k m := by
  induction m with
  | nil => rfl
  | cons e m ih =>
    obtain ⟨k', v⟩ := e
    unfold amGet assocFind
    by_cases h : k' = k
    · simp [h]
    · simp only [h, if_false, List.find?_cons, decide_false]
      exact ih

def nodeCust (F : TsplibFile) (n : Int × Int × Int) : Cust :=
  ⟨n.1, n.2.1, n.2.2, (assocFind n.1 F.demands).getD 0, 0, .max, 0⟩

theorem tsplibJobs_spec (F : TsplibFile) (nodes : List (Int × Int × Int))
    (hd : ∀ n ∈ nodes, (assocFind n.1 F.demands).isSome) (ci : List (Int × Int)) :
    ∃ js ci', tsplibJobs F.depot F.demands ci nodes = .ok (js, ci') ∧ ci <+: ci' ∧
      ∀ cs, ci' <+: cs →
        js.map (obsJob cs) = (nodes.filter (fun n => n.1 ≠ F.depot)).map fun n => deliveryJob 1 (nodeCust F n) := by
  induction nodes generalizing ci with
  | nil => exact ⟨[], ci, rfl, List.prefix_refl ci, fun _ _ => rfl⟩
  | cons n nodes ih =>
    obtain ⟨id, x, y⟩ := n
    have hd' : ∀ n ∈ nodes, (assocFind n.1 F.demands).isSome := fun n hn => hd n (List.mem_cons_of_mem _ hn)
    by_cases hdep : id = F.depot
    · obtain ⟨js, ci', h1, h2, h3⟩ := ih hd' ci
      exact ⟨js, ci', by rw [tsplibJobs, if_pos hdep, h1], h2, fun cs h => by
        rw [List.filter_cons_of_neg (by simpa using hdep)]; exact h3 cs h⟩
    · obtain ⟨d, hdv⟩ := Option.isSome_iff_exists.mp (hd (id, x, y) List.mem_cons_self)
      obtain ⟨js, ci', h1, h2, h3⟩ := ih hd' (collect ci (x, y)).2
      refine ⟨Job'.single { id := id - 1, loc := (collect ci (x, y)).1, dur := 0, tws := [⟨0, .max⟩], dem := ⟨0, 0, d, 0⟩ } :: js,
        ci', ?_, (collect_prefix ci _).trans h2, fun cs h => ?_⟩
      · simp only [tsplibJobs, hdep, if_false, amGet_eq_assocFind, hdv, h1]
      · rw [List.filter_cons_of_pos (by simpa using hdep), List.map_cons, List.map_cons, h3 cs h]
        simp only [obsJob, obsSingle, collect_get (h2.trans h), deliveryJob, expSingle, nodeCust, static4, hdv,
          Option.getD_some, Bool.false_eq_true, if_false]

theorem wfTsplib_facts {F : TsplibFile} (h : wfTsplib F = true) :
    (F.nodes.map (·.1)).Nodup ∧ (F.demands.map (·.1)).Nodup ∧ F.demands.length = F.nodes.length ∧
    (∀ n ∈ F.nodes, (assocFind n.1 F.demands).isSome) ∧ (assocFind F.depot F.nodes).isSome := by
  unfold wfTsplib at h
  simp only [Bool.and_eq_true, decide_eq_true_eq, List.all_eq_true] at h
  obtain ⟨⟨⟨⟨⟨⟨⟨_, _⟩, _⟩, h4⟩, h5⟩, h6⟩, h7⟩, h8⟩ := h
  exact ⟨h4, h5, h6, h7, h8⟩

theorem wfTsplib_pos {F : TsplibFile} (h : wfTsplib F = true) : 1 ≤ F.nodes.length := by
  obtain ⟨_, _, _, _, hdep⟩ := wfTsplib_facts h
  cases hnodes : F.nodes with
  | nil => rw [hnodes] at hdep; cases hdep
  | cons _ _ => exact Nat.le_add_left 1 _

theorem tsplib_observe (rounded : Bool) (F : TsplibFile) (h : wfTsplib F = true) :
    ∃ P, parseTsplib rounded (printTsplib F) = .ok P ∧
      observe P = dumpOf rounded (meaningTsplib F) ((meaningTsplib F).customers.map (deliveryJob 1)) := by
  obtain ⟨hn, hdn, hlen, hdem, hdep⟩ := wfTsplib_facts h
  obtain ⟨js, ci', hj, hpre, hobs⟩ := tsplibJobs_spec F F.nodes hdem []
  obtain ⟨dxy, hdxy⟩ := Option.isSome_iff_exists.mp hdep
  have hrc := readSection_print readCoords (fun n => .nums [n.1, n.2.1, n.2.2]) (fun _ _ => rfl) (fun _ _ _ _ => rfl) F.nodes
    (.word "DEMAND_SECTION" ::
      (F.demands.map (fun d => .nums [d.1, d.2]) ++ [.word "DEPOT_SECTION", .nums [F.depot], .nums [-1], .word "EOF"])) [] hn
  have hrd := readSection_print readDemands (fun d => .nums [d.1, d.2]) (fun _ _ => rfl) (fun _ _ _ _ => rfl) F.demands
    [.word "DEPOT_SECTION", .nums [F.depot], .nums [-1], .word "EOF"] [] hdn
  rw [List.nil_append] at hrc
  rw [List.nil_append, hlen] at hrd
  have hdim : ¬ (F.nodes.length : Int) < 0 := Int.not_lt.mpr (Int.natCast_nonneg _)
  refine ⟨{ vehicles := mkFleet F.nodes.length F.capacity (collect ci' dxy).1 0 .max, jobs := js,
            coords := (collect ci' dxy).2, rounded := rounded }, ?_,
    observe_eq_dumpOf _ (meaningTsplib F) _ ?_ ?_⟩
  -- the reader runs: header, `hdim`, node rows (`hrc`), demand rows (`hrd`), depot section, jobs (`hj`), depot (`hdxy`)
  · simp only [parseTsplib, printTsplib, List.append_assoc, List.cons_append, List.nil_append, List.drop_succ_cons,
      List.drop_zero, List.head?_cons, List.tail_cons, readKV, valInt, expectLine, bind, Except.bind, pure, Except.pure,
      ↓reduceIte, ne_eq, not_true_eq_false, Int.toNat_natCast, hrc, hrd, hj, amGet_eq_assocFind, hdxy, hdim]
  · refine obs_mkFleet _ _ _ _ _ _ _ ?_
    simp only [meaningTsplib, hdxy, Option.getD_some]
    exact collect_get (List.prefix_refl _)
  · rw [hobs _ (collect_prefix ci' dxy), meaningTsplib, List.map_map]; rfl

theorem tsplib_shows (rounded : Bool) (F : TsplibFile) (h : wfTsplib F = true) :
    ∃ P, parseTsplib rounded (printTsplib F) = .ok P ∧ Shows false 1 rounded (observe P) (meaningTsplib F) :=
  shows_of_observe (tsplib_observe rounded F h) (shows_deliveries 1 rounded (wfTsplib_pos h))

end C13
