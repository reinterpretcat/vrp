import VrpProofs.C13.Instance
/-!
# C13 — Li&Lim: the reader model on a printed file is observed as the requests of the file's instance
-/

namespace C13

/-! ### the id map: with distinct ids the reader's last-row-wins lookup is the specification's first match -/

theorem lookupLast_eq_findRow (id : Int) (rows : List Row) (h : (rows.map (·.id)).Nodup) :
    lookupLast id rows = findRow id rows := by
  induction rows with
  | nil => rfl
  | cons r rs ih =>
    rw [List.map_cons, List.nodup_cons] at h
    rw [lookupLast, ih h.2]
    by_cases hid : r.id = id
    · have hnone : findRow id rs = none := List.find?_eq_none.mpr fun r' hr' hid' =>
        h.1 (hid ▸ List.mem_map.mpr ⟨r', hr', of_decide_eq_true hid'⟩)
      rw [hnone]
      simp [hid, findRow]
    · rw [show findRow id (r :: rs) = findRow id rs by simp [findRow, hid]]
      cases findRow id rs <;> simp [hid]

theorem findRow_of_mem (r : Row) (rows : List Row) (h : (rows.map (·.id)).Nodup) (hr : r ∈ rows) :
    findRow r.id rows = some r := by
  induction rows with
  | nil => cases hr
  | cons q qs ih =>
    rw [List.map_cons, List.nodup_cons] at h
    rcases List.mem_cons.mp hr with rfl | hr
    · simp [findRow]
    · have hne : ¬ q.id = r.id := fun he => h.1 (he ▸ List.mem_map.mpr ⟨r, hr, rfl⟩)
      rw [show findRow r.id (q :: qs) = findRow r.id qs by simp [findRow, hne]]
      exact ih h.2 hr

theorem obs_lilimSingle {ci cs : List (Int × Int)} (r : Row) (h : (lilimSingle ci r).2 <+: cs) :
    obsSingle cs (lilimSingle ci r).1 = expSingle true 0 (rowCust r) := by
  simp only [lilimSingle, obsSingle, expSingle, rowCust, dynamic4, collect_get h, Int.sub_zero, if_true]
  rfl

/-- the requests named by a list of pickup rows: `requestsOf` with the filter taken out, for the induction over the
    pickup rows in `lilimJobs_spec` -/
def reqsOf (rows ps : List Row) : List (Row × Row) :=
  ps.filterMap (fun p => (findRow p.dIdx rows).map (fun d => (p, d)))

theorem lilimJobs_spec (rows : List Row) (hn : (rows.map (·.id)).Nodup) (ps : List Row)
    (hp : ∀ p ∈ ps, p ∈ rows ∧ (findRow p.dIdx rows).isSome) (ci : List (Int × Int)) (k : Nat) :
    ∃ js ci', lilimJobs rows ci k (ps.map (fun r => (r.id, r.dIdx))) = .ok (js, ci') ∧ ci <+: ci' ∧
      ∀ cs, ci' <+: cs →
        js.map (obsJob cs) = requestJobs k ((reqsOf rows ps).map fun pd => (rowCust pd.1, rowCust pd.2)) := by
  induction ps generalizing ci k with
  | nil => exact ⟨[], ci, rfl, List.prefix_refl ci, fun _ _ => rfl⟩
  | cons p ps ih =>
    obtain ⟨hpm, hpd⟩ := hp p List.mem_cons_self
    obtain ⟨d, hd⟩ := Option.isSome_iff_exists.mp hpd
    have hlp : lookupLast p.id rows = some p := by rw [lookupLast_eq_findRow _ _ hn]; exact findRow_of_mem p rows hn hpm
    have hld : lookupLast p.dIdx rows = some d := by rw [lookupLast_eq_findRow _ _ hn]; exact hd
    have ha : ci <+: (lilimSingle ci p).2 := collect_prefix ci _
    have hb : (lilimSingle ci p).2 <+: (lilimSingle (lilimSingle ci p).2 d).2 := collect_prefix _ _
    obtain ⟨js, ci', h1, h2, h3⟩ :=
      ih (fun q hq => hp q (List.mem_cons_of_mem _ hq)) (lilimSingle (lilimSingle ci p).2 d).2 (k + 1)
    refine ⟨Job'.multi k [(lilimSingle ci p).1, (lilimSingle (lilimSingle ci p).2 d).1] :: js, ci', ?_,
      (ha.trans hb).trans h2, fun cs h => ?_⟩
    · simp only [List.map_cons, lilimJobs, hlp, hld, h1]
    · have hreq : reqsOf rows (p :: ps) = (p, d) :: reqsOf rows ps := by
        simp [reqsOf, hd]
      simp only [hreq, List.map_cons, requestJobs, h3 cs h, obsJob, List.map_nil,
        obs_lilimSingle p ((hb.trans h2).trans h), obs_lilimSingle d (h2.trans h)]

theorem wfLilim_facts {F : LilimFile} (h : wfLilim F = true) :
    1 ≤ F.vehicles ∧ 0 ≤ F.capacity ∧ (F.rows.map (·.id)).Nodup ∧
    (∀ p ∈ F.rows.filter isPickup, pickupOk F.rows p = true) ∧
    (∀ d ∈ F.rows.filter (fun r => !isPickup r), (F.rows.filter isPickup).countP (fun p => p.dIdx = d.id) = 1) := by
  unfold wfLilim at h
  simp only [Bool.and_eq_true, decide_eq_true_eq, List.all_eq_true, beq_iff_eq] at h
  obtain ⟨⟨⟨⟨⟨⟨⟨⟨⟨⟨h1, h2⟩, _⟩, _⟩, _⟩, _⟩, _⟩, _⟩, h9⟩, h10⟩, h11⟩ := h
  exact ⟨h1, h2, h9, h10, h11⟩

theorem pickupOk_facts {rows : List Row} {p : Row} (h : pickupOk rows p = true) :
    ∃ d, findRow p.dIdx rows = some d ∧ d.demand = -p.demand := by
  unfold pickupOk at h
  cases hf : findRow p.dIdx rows with
  | none => simp [hf] at h
  | some d =>
    simp only [hf, Bool.and_eq_true, decide_eq_true_eq] at h
    exact ⟨d, rfl, h.2.1.1⟩

theorem requestsOf_eq_reqsOf (rows : List Row) : requestsOf rows = reqsOf rows (rows.filter isPickup) := rfl

/-- the reader spells the pickup test `demand > 0`, the specification `isPickup` -/
theorem relationsOf_eq (rows : List Row) :
    relationsOf rows = (rows.filter isPickup).map (fun r => (r.id, r.dIdx)) := rfl

def custRequests (rows : List Row) : List (Cust × Cust) := (requestsOf rows).map fun pd => (rowCust pd.1, rowCust pd.2)

theorem meaningLilim_customers (F : LilimFile) :
    (meaningLilim F).customers = (custRequests F.rows).flatMap fun pd => [pd.1, pd.2] := by
  simp only [meaningLilim, custRequests, List.flatMap_map]

theorem meaningLilim_pairs (F : LilimFile) :
    (meaningLilim F).pairs = (custRequests F.rows).map fun pd => (pd.1.id, pd.2.id) := by
  simp only [meaningLilim, custRequests, List.map_map]; rfl

theorem custRequests_signs {F : LilimFile} (h : wfLilim F = true) :
    ∀ pd ∈ custRequests F.rows, 0 < pd.1.demand ∧ pd.2.demand ≤ 0 := by
  obtain ⟨_, _, _, hpk, _⟩ := wfLilim_facts h
  intro pd hpd
  obtain ⟨x, hm, rfl⟩ := List.mem_map.mp hpd
  obtain ⟨p, hpm, hpe⟩ := List.mem_filterMap.mp hm
  obtain ⟨d, hd, hdd⟩ := pickupOk_facts (hpk p hpm)
  rw [hd] at hpe
  cases hpe
  have hp0 : 0 < p.demand := of_decide_eq_true (List.mem_filter.mp hpm).2
  exact ⟨hp0, Int.le_trans (Int.le_of_eq hdd) (Int.neg_nonpos_of_nonneg (Int.le_of_lt hp0))⟩

theorem lilim_observe (rounded : Bool) (F : LilimFile) (h : wfLilim F = true) :
    ∃ P, parseLilim rounded (printLilim F) = .ok P ∧
      observe P = dumpOf rounded (meaningLilim F) (requestJobs 0 (custRequests F.rows)) := by
  obtain ⟨hv, hc, hn, hpk, _⟩ := wfLilim_facts h
  have hp : ∀ p ∈ F.rows.filter isPickup, p ∈ F.rows ∧ (findRow p.dIdx F.rows).isSome := by
    intro p hpm
    obtain ⟨d, hd, _⟩ := pickupOk_facts (hpk p hpm)
    exact ⟨(List.mem_filter.mp hpm).1, by simp [hd]⟩
  obtain ⟨js, ci', hj, hpre, hobs⟩ :=
    lilimJobs_spec F.rows hn (F.rows.filter isPickup) hp (collect [] (F.depot.x, F.depot.y)).2 0
  refine ⟨{ vehicles := mkFleet F.vehicles F.capacity (collect [] (F.depot.x, F.depot.y)).1 F.depot.ready
              (.fin F.depot.due),
            jobs := js, coords := ci', rounded := rounded }, ?_,
    observe_eq_dumpOf _ (meaningLilim F) _ (obs_mkFleet _ _ _ _ _ _ _ (collect_get hpre)) ?_⟩
  · simp only [parseLilim, printLilim, List.cons_append, List.nil_append, vehicleLine_ok hv hc, if_false, readCustomer9,
      mapE_map_ok readCustomer9 rowLine F.rows fun _ => rfl, relationsOf_eq, hj, Int.toNat_natCast]
  · rw [custRequests, requestsOf_eq_reqsOf]; exact hobs _ (List.prefix_refl _)

theorem lilim_shows (rounded : Bool) (F : LilimFile) (h : wfLilim F = true) :
    ∃ P, parseLilim rounded (printLilim F) = .ok P ∧ Shows true 0 rounded (observe P) (meaningLilim F) :=
  shows_of_observe (lilim_observe rounded F h)
    (shows_requests rounded (wfLilim_facts h).1 _ (meaningLilim_customers F))

theorem findRow_some_id {id : Int} {rows : List Row} {r : Row} (h : findRow id rows = some r) : r.id = id := by
  unfold findRow at h
  simpa using List.find?_some h

theorem requests_complete {rows : List Row} (hn : (rows.map (·.id)).Nodup)
    (hpk : ∀ p ∈ rows.filter isPickup, pickupOk rows p = true)
    (hdl : ∀ d ∈ rows.filter (fun r => !isPickup r), (rows.filter isPickup).countP (fun p => p.dIdx = d.id) = 1)
    (r : Row) : ((requestsOf rows).flatMap (fun pd => [pd.1, pd.2])).count r = rows.count r := by
  have hnr : rows.Nodup := List.Pairwise.of_map _ (fun _ _ hne he => hne (congrArg _ he)) hn
  -- the partner of a pickup row
  let g : Row → Row := fun p => (findRow p.dIdx rows).getD p
  have hg : ∀ p ∈ rows.filter isPickup, findRow p.dIdx rows = some (g p) ∧ (g p).demand = -p.demand := by
    intro p hpm
    obtain ⟨d, hd, hdd⟩ := pickupOk_facts (hpk p hpm)
    simp only [g, hd, Option.getD_some]; exact ⟨trivial, hdd⟩
  have hreqs : requestsOf rows = (rows.filter isPickup).map (fun p => (p, g p)) :=
    filterMap_eq_map_of_some fun p hpm => by rw [(hg p hpm).1]; rfl
  rw [hreqs, List.flatMap_map, count_flatMap_pair r g, hnr.count]
  by_cases hpick : isPickup r = true
  · -- a pickup row: once as itself, never as a partner
    have h2 : (rows.filter isPickup).countP (fun p => g p == r) = 0 := by
      rw [List.countP_eq_zero]
      intro p hpm he
      have hp0 : 0 < p.demand := of_decide_eq_true (List.mem_filter.mp hpm).2
      have hr0 : 0 < r.demand := of_decide_eq_true hpick
      have := (hg p hpm).2
      rw [beq_iff_eq.mp he] at this
      exact Int.not_lt.mpr (Int.neg_nonpos_of_nonneg (Int.le_of_lt hp0)) (this ▸ hr0)
    rw [List.count_filter hpick, hnr.count, h2]; rfl
  · -- any other row: never as itself, as the partner of the one pickup that names it if it is in the file
    have h1 : (rows.filter isPickup).count r = 0 :=
      List.count_eq_zero.mpr fun hm => hpick (List.mem_filter.mp hm).2
    rw [h1, Nat.zero_add]
    by_cases hmem : r ∈ rows
    · rw [if_pos hmem, ← hdl r (List.mem_filter.mpr ⟨hmem, by simpa using hpick⟩)]
      refine List.countP_congr fun p hpm => ?_
      obtain ⟨hd, _⟩ := hg p hpm
      simp only [beq_iff_eq, decide_eq_true_eq]
      constructor
      · intro he; rw [he] at hd; exact (findRow_some_id hd).symm
      · intro he
        rw [he, findRow_of_mem r rows hn hmem] at hd
        exact (Option.some.inj hd).symm
    · rw [if_neg hmem, List.countP_eq_zero]
      intro p hpm he
      have hd := (hg p hpm).1
      rw [beq_iff_eq.mp he] at hd
      exact hmem (List.mem_of_find?_eq_some hd)

end C13
