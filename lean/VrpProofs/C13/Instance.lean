import VrpModel.C13
/-!
# C13 — how a problem that represents an instance is observed, and what follows from that alone
-/

namespace C13

theorem pos_some_get {p : Int × Int} {ci : List (Int × Int)} {i : Nat} (h : pos p ci = some i) :
    ci[i]? = some p := by
  induction ci generalizing i with
  | nil => cases h
  | cons q qs ih =>
    rw [pos] at h
    split at h
    · next hq => cases h; rw [List.getElem?_cons_zero, hq]
    · obtain ⟨k, hk, rfl⟩ := Option.map_eq_some_iff.mp h
      rw [List.getElem?_cons_succ]; exact ih hk

theorem collect_prefix (ci : List (Int × Int)) (p : Int × Int) : ci <+: (collect ci p).2 := by
  unfold collect
  split
  · exact List.prefix_refl ci
  · exact List.prefix_append ci [p]

/-- invariant of the three job loops: the coordinate index only grows, so an index handed out once stays right -/
theorem collect_get {ci cs : List (Int × Int)} {p : Int × Int} (h : (collect ci p).2 <+: cs) :
    cs[(collect ci p).1]? = some p := by
  obtain ⟨e, rfl⟩ := h
  have hg : (collect ci p).2[(collect ci p).1]? = some p := by
    unfold collect
    split
    · next i hi => exact pos_some_get hi
    · simp
  rw [List.getElem?_append_left (List.getElem?_eq_some_iff.mp hg).1]; exact hg

theorem allSome_map_self (f : α → Option α) (l : List α) (h : ∀ a ∈ l, f a = some a) :
    allSome (l.map f) = some l := by
  induction l with
  | nil => rfl
  | cons a as ih =>
    rw [List.map_cons, h a List.mem_cons_self, allSome, ih fun b hb => h b (List.mem_cons_of_mem _ hb)]; rfl

theorem allSome_map_map (f : α → Option β) (g : β → γ) (l : List α) :
    allSome (l.map (fun a => (f a).map g)) = (allSome (l.map f)).map (List.map g) := by
  induction l with
  | nil => rfl
  | cons a as ih =>
    simp only [List.map_cons]
    cases hf : f a with
    | none => rfl
    | some b =>
      simp only [allSome, Option.map_some, ih]
      cases allSome (as.map f) <;> rfl

theorem mem_of_allSome {l : List (Option α)} {xs : List α} (h : allSome l = some xs) {x : α} (hx : x ∈ xs) :
    some x ∈ l := by
  induction l generalizing xs with
  | nil => cases h; cases hx
  | cons o os ih =>
    cases o with
    | none => cases h
    | some a =>
      obtain ⟨ys, hys, rfl⟩ := Option.map_eq_some_iff.mp h
      rcases List.mem_cons.mp hx with rfl | hx
      · exact List.mem_cons_self
      · exact List.mem_cons_of_mem _ (ih hys hx)

theorem mapE_map_ok (f : α → Except Err β) (pr : β → α) (l : List β) (h : ∀ b, f (pr b) = .ok b) :
    mapE f (l.map pr) = .ok l := by
  induction l with
  | nil => rfl
  | cons b bs ih => simp only [List.map_cons, mapE, h b, ih]

theorem filterMap_eq_map_of_some {f : α → Option β} {g : α → β} {l : List α} (h : ∀ a ∈ l, f a = some (g a)) :
    l.filterMap f = l.map g := by
  induction l with
  | nil => rfl
  | cons a as ih => rw [List.filterMap_cons, h a List.mem_cons_self, List.map_cons, ih fun b hb => h b (List.mem_cons_of_mem _ hb)]

theorem count_flatMap_pair {α : Type} [BEq α] [LawfulBEq α] (a : α) (g : α → α) (l : List α) :
    (l.flatMap (fun p => [p, g p])).count a = l.count a + l.countP (fun p => g p == a) := by
  induction l with
  | nil => rfl
  | cons x xs ih =>
    simp only [List.flatMap_cons, List.count_append, ih, List.count_cons, List.countP_cons, List.count_nil]
    omega

/-- the guard on the vehicle line of `parseSolomon` and `parseLilim` -/
theorem vehicleLine_ok {n : Nat} {cap : Int} (hn : 1 ≤ n) (hc : 0 ≤ cap) : ¬ ((n : Int) < 1 ∨ cap < 0) := by omega

def expVehicle (cap : Int) (xy : Int × Int) (lo : Int) (hi : Bound) (i : Nat) : DVehicle :=
  { idx := i, cap := cap, s := some xy, e := some xy, sE := some (.fin lo), sL := none, eE := none, eL := some hi }

def expFleet (n : Nat) (cap : Int) (xy : Int × Int) (lo : Int) (hi : Bound) : List DVehicle :=
  (List.range n).map (expVehicle cap xy lo hi)

theorem obs_mkFleet (cs : List (Int × Int)) (n : Nat) (cap : Int) (loc : Nat) (xy : Int × Int) (lo : Int) (hi : Bound)
    (h : cs[loc]? = some xy) :
    (mkFleet n cap loc lo hi).map (obsVehicle cs) = expFleet n cap xy lo hi := by
  simp only [mkFleet, expFleet, List.map_map]
  exact List.map_congr_left fun i _ => by simp only [Function.comp, obsVehicle, mkVehicle, expVehicle, h]

theorem expFleet_pos {n : Nat} (hn : 1 ≤ n) (cap : Int) (xy : Int × Int) (lo : Int) (hi : Bound) :
    ∃ vs, expFleet n cap xy lo hi = expVehicle cap xy lo hi 0 :: vs := by
  cases n with
  | zero => exact absurd hn (Nat.not_succ_le_zero 0)
  | succ m => exact ⟨_, by rw [expFleet, List.range_succ_eq_map, List.map_cons]⟩

theorem decodeFleet_expFleet {n : Nat} (hn : 1 ≤ n) (cap : Int) (xy : Int × Int) (lo : Int) (hi : Bound) :
    decodeFleet (expFleet n cap xy lo hi) = some (n, cap, xy, lo, hi) := by
  obtain ⟨vs, hvs⟩ := expFleet_pos hn cap xy lo hi
  have hhead : (expFleet n cap xy lo hi).head? = some (expVehicle cap xy lo hi 0) := by rw [hvs]; rfl
  have hok : fleetOk (expFleet n cap xy lo hi) cap xy lo hi = true := by
    simp [fleetOk, expFleet, expVehicle, Function.comp_def]
  have hlen : (expFleet n cap xy lo hi).length = n := by simp [expFleet]
  simp only [decodeFleet, hhead, expVehicle, hok, hlen, if_true]

theorem all_loadsFrom_static (cap : Int) (qs : List Int) (hq : ∀ q ∈ qs, 0 ≤ q) (cur : Int) (h : cur ≤ cap) :
    (loadsFrom cur (qs.map static4)).all (fun l => decide (l ≤ cap)) = true := by
  induction qs generalizing cur with
  | nil => rfl
  | cons q qs ih =>
    have hq0 := hq q List.mem_cons_self
    have h' : cur + (0 + 0 - q - 0) ≤ cap := by omega
    simp only [List.map_cons, loadsFrom, static4, List.all_cons, decide_eq_true h', Bool.true_and]
    exact ih (fun x hx => hq x (List.mem_cons_of_mem _ hx)) _ h'

/-- static deliveries with non-negative amounts: everything is on board at departure and the load only falls, so
    the constraint is `total ≤ capacity` -/
theorem capAccepts_static (cap : Int) (qs : List Int) (hq : ∀ q ∈ qs, 0 ≤ q) :
    capAccepts cap (qs.map static4) = decide (qs.sum ≤ cap) := by
  have hsum : ((qs.map static4).map (·.ds)).sum = qs.sum := by
    rw [List.map_map]; exact congrArg List.sum (List.map_id qs)
  unfold capAccepts tourLoads
  simp only [hsum, List.all_cons]
  by_cases h : qs.sum ≤ cap
  · rw [all_loadsFrom_static cap qs hq _ h, Bool.and_true]
  · rw [decide_eq_false h, Bool.false_and]

theorem loadsFrom_dynamic (qs : List Int) (cur : Int) :
    loadsFrom cur (qs.map dynamic4) = prefixSums cur qs := by
  induction qs generalizing cur with
  | nil => rfl
  | cons q qs ih =>
    have hstep : cur + ((dynamic4 q).ps + (dynamic4 q).pd - (dynamic4 q).ds - (dynamic4 q).dd) = cur + q := by
      unfold dynamic4; split <;> simp
    simp only [List.map_cons, loadsFrom, prefixSums, hstep, ih]

theorem capAccepts_dynamic (cap : Int) (qs : List Int) :
    capAccepts cap (qs.map dynamic4) = (0 :: prefixSums 0 qs).all (fun l => decide (l ≤ cap)) := by
  have hsum : ((qs.map dynamic4).map (·.ds)).sum = 0 := by
    induction qs with
    | nil => rfl
    | cons q qs ih =>
      have : (dynamic4 q).ds = 0 := by unfold dynamic4; split <;> rfl
      simp only [List.map_cons, List.sum_cons, this, ih]; rfl
  unfold capAccepts tourLoads
  simp only [hsum, loadsFrom_dynamic]

/-- the single job a customer is observed as: job id = file id − `off`; `pd`: the signed demand sits in the dynamic
    slots, otherwise in the static delivery slot -/
def expSingle (pd : Bool) (off : Int) (c : Cust) : DSingle :=
  { id := c.id - off, xy := some (c.x, c.y), dur := c.service, tws := [⟨c.ready, c.due⟩],
    dem := if pd then dynamic4 c.demand else static4 c.demand }

/-- what capacity, distances and appending a customer depend on: the fleet, the singles of all jobs in order (however
    they are grouped into jobs) and the matrix. Decoding and the text round trip need the jobs themselves: `dumpOf`. -/
structure Shows (pd : Bool) (off : Int) (rounded : Bool) (d : Dump) (I : Instance) : Prop where
  vehicles_pos : 1 ≤ I.vehicles
  vehicles : d.vehicles = expFleet I.vehicles I.capacity I.depotXY I.depotOpen I.depotClose
  singles : d.jobs.flatMap (·.subs) = I.customers.map (expSingle pd off)
  dist : d.dist = distMatrix rounded (pointsOf d.vehicles d.jobs)

namespace Shows

variable {pd : Bool} {off : Int} {rounded : Bool} {d : Dump} {I : Instance}

theorem first_vehicle (h : Shows pd off rounded d I) :
    ∃ vs, d.vehicles = expVehicle I.capacity I.depotXY I.depotOpen I.depotClose 0 :: vs := by
  rw [h.vehicles]; exact expFleet_pos h.vehicles_pos _ _ _ _

theorem dist_eq (h : Shows pd off rounded d I) : d.dist = instDist rounded I := by
  obtain ⟨vs, hvs⟩ := h.first_vehicle
  rw [h.dist, pointsOf.eq_def, hvs, h.singles, List.map_map]; rfl

theorem dumpStops_eq (h : Shows pd off rounded d I) : dumpStops d = instStops pd off I := by
  rw [dumpStops, h.singles, List.map_map]; rfl

theorem dumpAppendOk_eq (h : Shows pd off rounded d I) (pre : List Int) (target : Int) :
    dumpAppendOk d pre target = instAppendOk rounded pd off I pre target := by
  obtain ⟨vs, hvs⟩ := h.first_vehicle
  rw [instAppendOk, ← h.dist_eq, ← h.dumpStops_eq, dumpAppendOk, hvs]; rfl

theorem dumpCapacity_eq (h : Shows pd off rounded d I) : dumpCapacity d = I.capacity := by
  obtain ⟨vs, hvs⟩ := h.first_vehicle
  rw [dumpCapacity, hvs]; rfl

theorem demandOfId_eq (h : Shows pd off rounded d I) (id : Int) :
    demandOfId d.jobs (id - off) = (instDemand I id).map (fun q => if pd then dynamic4 q else static4 q) := by
  have hp : ((fun s : DSingle => decide (s.id = id - off)) ∘ expSingle pd off) = fun c => decide (c.id = id) :=
    funext fun c => decide_eq_decide.mpr (Int.sub_left_inj off)
  rw [demandOfId, h.singles, List.find?_map, hp, instDemand, Option.map_map, Option.map_map]; rfl

/-- `crit`: any reading of the file demands that agrees with the core rule on the 4-tuples these demands denote -/
theorem accepts (h : Shows pd off rounded d I) (crit : List Int → Bool)
    (hcrit : ∀ qs, (∀ q ∈ qs, ∃ c ∈ I.customers, c.demand = q) →
      capAccepts I.capacity (qs.map fun q => if pd then dynamic4 q else static4 q) = crit qs) (tour : List Int) :
    dumpAccepts d (tour.map (· - off)) = (allSome (tour.map (instDemand I))).map crit := by
  rw [dumpAccepts, h.dumpCapacity_eq, List.map_map,
    show demandOfId d.jobs ∘ (· - off) = fun id => (instDemand I id).map _ from funext h.demandOfId_eq, allSome_map_map]
  cases hs : allSome (tour.map (instDemand I)) with
  | none => rfl
  | some qs =>
    refine congrArg some (hcrit qs fun q hq => ?_)
    obtain ⟨id, _, hid⟩ := List.mem_map.mp (mem_of_allSome hs hq)
    obtain ⟨c, hc, rfl⟩ := Option.map_eq_some_iff.mp hid
    exact ⟨c, List.mem_of_find?_eq_some hc, rfl⟩

theorem accepts_delivery (h : Shows false off rounded d I) (hq : ∀ c ∈ I.customers, 0 ≤ c.demand) (tour : List Int) :
    dumpAccepts d (tour.map (· - off)) = fileAcceptsDelivery I tour :=
  h.accepts _ (fun qs hqs => capAccepts_static I.capacity qs fun q hq' => by
    obtain ⟨c, hc, rfl⟩ := hqs q hq'; exact hq c hc) tour

theorem accepts_pd (h : Shows true off rounded d I) (tour : List Int) :
    dumpAccepts d (tour.map (· - off)) = fileAcceptsPD I tour :=
  h.accepts _ (fun qs _ => capAccepts_dynamic I.capacity qs) tour

end Shows

/-- what the readers are shown to produce (`*_observe`); it `Shows` `I` when the singles of `js` are the customers of `I` -/
def dumpOf (rounded : Bool) (I : Instance) (js : List DJob) : Dump :=
  let vs := expFleet I.vehicles I.capacity I.depotXY I.depotOpen I.depotClose
  { vehicles := vs, jobs := js, dist := distMatrix rounded (pointsOf vs js) }

theorem observe_eq_dumpOf (P : Problem') (I : Instance) (js : List DJob)
    (hv : P.vehicles.map (obsVehicle P.coords) =
      expFleet I.vehicles I.capacity I.depotXY I.depotOpen I.depotClose)
    (hj : P.jobs.map (obsJob P.coords) = js) : observe P = dumpOf P.rounded I js := by
  simp only [observe, dumpOf, hv, hj]

def deliveryJob (off : Int) (c : Cust) : DJob := { id := c.id - off, multi := false, subs := [expSingle false off c] }

def requestJobs : Nat → List (Cust × Cust) → List DJob
  | _, [] => []
  | k, pd :: rest =>
    { id := k, multi := true, subs := [expSingle true 0 pd.1, expSingle true 0 pd.2] } :: requestJobs (k + 1) rest

theorem shows_deliveries (off : Int) (rounded : Bool) {I : Instance} (hv : 1 ≤ I.vehicles) :
    Shows false off rounded (dumpOf rounded I (I.customers.map (deliveryJob off))) I :=
  ⟨hv, rfl, by rw [dumpOf, List.flatMap_map]; exact (List.map_eq_flatMap ..).symm, rfl⟩

theorem subs_requestJobs (k : Nat) (reqs : List (Cust × Cust)) :
    (requestJobs k reqs).flatMap (·.subs) = (reqs.flatMap fun pd => [pd.1, pd.2]).map (expSingle true 0) := by
  induction reqs generalizing k with
  | nil => rfl
  | cons pd reqs ih => simp only [requestJobs, List.flatMap_cons, ih, List.map_append, List.map_cons, List.map_nil]

theorem shows_requests (rounded : Bool) {I : Instance} (hv : 1 ≤ I.vehicles) (reqs : List (Cust × Cust))
    (hc : I.customers = reqs.flatMap fun pd => [pd.1, pd.2]) :
    Shows true 0 rounded (dumpOf rounded I (requestJobs 0 reqs)) I :=
  ⟨hv, rfl, by rw [hc]; exact subs_requestJobs 0 reqs, rfl⟩

theorem shows_of_observe {pd : Bool} {off : Int} {rounded : Bool} {I : Instance} {res : Except Err Problem'} {d : Dump}
    (h : ∃ P, res = .ok P ∧ observe P = d) (hs : Shows pd off rounded d I) :
    ∃ P, res = .ok P ∧ Shows pd off rounded (observe P) I :=
  let ⟨P, hP, hobs⟩ := h
  ⟨P, hP, hobs ▸ hs⟩

theorem decodeDeliveries_dumpOf (off : Int) (rounded : Bool) (I : Instance) (hv : 1 ≤ I.vehicles)
    (hp : I.pairs = []) :
    decodeDeliveries off (dumpOf rounded I (I.customers.map (deliveryJob off))) = some I := by
  have hc : allSome ((I.customers.map (deliveryJob off)).map (decodeDelivery off)) = some I.customers := by
    rw [List.map_map]
    exact allSome_map_self _ _ fun c _ => by
      simp [decodeDelivery, deliveryJob, expSingle, static4, Int.sub_add_cancel]
  cases I
  subst hp
  simp only [decodeDeliveries, dumpOf, decodeFleet_expFleet hv, hc]

theorem allSome_decode_requestJobs (reqs : List (Cust × Cust))
    (hr : ∀ pd ∈ reqs, 0 < pd.1.demand ∧ pd.2.demand ≤ 0) (k : Nat) :
    allSome (((requestJobs k reqs).zipIdx k).map decodeRequest) = some reqs := by
  induction reqs generalizing k with
  | nil => rfl
  | cons pd reqs ih =>
    obtain ⟨h1, h2⟩ := hr pd List.mem_cons_self
    -- the sign picks the slot: `dynamic4` puts a positive amount in `pd`, any other (negated) in `dd`
    have h2' : ¬ pd.2.demand > 0 := Int.not_lt.mpr h2
    have : decodeRequest ({ id := k, multi := true, subs := [expSingle true 0 pd.1, expSingle true 0 pd.2] }, k)
        = some pd := by
      simp [decodeRequest, decodeTask, expSingle, dynamic4, h1, h2']
    simp only [requestJobs, List.zipIdx_cons, List.map_cons, allSome, this,
      ih (fun q hq => hr q (List.mem_cons_of_mem _ hq)) (k + 1), Option.map_some]

theorem decodeLilim_dumpOf (rounded : Bool) (I : Instance) (hv : 1 ≤ I.vehicles) (reqs : List (Cust × Cust))
    (hr : ∀ pd ∈ reqs, 0 < pd.1.demand ∧ pd.2.demand ≤ 0)
    (hc : I.customers = reqs.flatMap fun pd => [pd.1, pd.2]) (hp : I.pairs = reqs.map fun pd => (pd.1.id, pd.2.id)) :
    decodeLilim (dumpOf rounded I (requestJobs 0 reqs)) = some I := by
  cases I
  subst hc hp
  simp only [decodeLilim, dumpOf, decodeFleet_expFleet hv, allSome_decode_requestJobs reqs hr 0]

theorem readRoutes_write (ids : List Int) (routes : List (List Int)) (free i : Nat)
    (hlen : routes.length ≤ free) (hall : ∀ r ∈ routes, r.all (fun id => ids.contains id) = true) :
    readRoutes ids free (writeRoutes i routes ++ [.skip]) = some routes := by
  induction routes generalizing free i with
  | nil => rfl
  | cons r rs ih =>
    cases free with
    | zero => exact absurd hlen (Nat.not_succ_le_zero _)
    | succ f =>
      simp only [writeRoutes, List.cons_append, readRoutes, hall r List.mem_cons_self, if_true,
        ih f (i + 1) (Nat.le_of_succ_le_succ hlen) fun q hq => hall q (List.mem_cons_of_mem _ hq), Option.map_some]

theorem readInit_writeSol (P : Problem') (ids : List Int) (hs : singleIds P.jobs = some ids) (routes : List (List Int))
    (hc : completeSol ids P.vehicles.length routes = true) :
    readInit P (writeSol routes) = some ⟨routes, []⟩ := by
  unfold completeSol at hc
  simp only [Bool.and_eq_true, decide_eq_true_eq, List.all_eq_true] at hc
  obtain ⟨⟨h1, h2⟩, h3⟩ := hc
  have hr := readRoutes_write ids routes P.vehicles.length 1 h1 fun r hr => List.all_eq_true.mpr (h2 r hr)
  unfold readInit writeSol
  simp only [hs, hr]
  congr 2
  rw [List.filter_eq_nil_iff]
  intro id hid
  simp only [Bool.not_eq_true, Bool.not_eq_false']
  exact h3 id hid

theorem singleIds_of_obs (cs : List (Int × Int)) (jobs : List Job')
    (h : ∀ j ∈ jobs.map (obsJob cs), j.multi = false) :
    singleIds jobs = some ((jobs.map (obsJob cs)).map (·.id)) := by
  induction jobs with
  | nil => rfl
  | cons j js ih =>
    have := ih (fun q hq => h q (by simp only [List.map_cons, List.mem_cons]; exact Or.inr hq))
    cases j with
    | single s => simp [singleIds, this, obsJob]
    | multi id subs => cases h (obsJob cs (.multi id subs)) (by simp)

theorem readInit_deliveries {P : Problem'} {off : Int} {rounded : Bool} {I : Instance}
    (h : observe P = dumpOf rounded I (I.customers.map (deliveryJob off))) (routes : List (List Int))
    (hc : completeSol (I.customers.map fun c => c.id - off) I.vehicles routes = true) :
    readInit P (writeSol routes) = some ⟨routes, []⟩ := by
  have hj : P.jobs.map (obsJob P.coords) = I.customers.map (deliveryJob off) := congrArg Dump.jobs h
  have hlen : P.vehicles.length = I.vehicles := by
    simpa [observe, dumpOf, expFleet] using congrArg (fun d => d.vehicles.length) h
  have hids : singleIds P.jobs = some (I.customers.map fun c => c.id - off) := by
    rw [singleIds_of_obs P.coords, hj, List.map_map]
    · rfl
    · rw [hj]; intro j hjm; obtain ⟨c, _, rfl⟩ := List.mem_map.mp hjm; rfl
  exact readInit_writeSol P _ hids routes (hlen ▸ hc)

end C13
