import VrpProofs.C13.Instance
/-!
# C13 — Solomon: the reader model on a printed file is observed as the deliveries of the file's instance
-/

namespace C13

theorem solomonJobs_spec (cs : List CustLine) (ci : List (Int × Int)) :
    ci <+: (solomonJobs ci cs).2 ∧ ∀ cs', (solomonJobs ci cs).2 <+: cs' →
      (solomonJobs ci cs).1.map (obsJob cs') =
        cs.map fun c => deliveryJob 0 ⟨c.id, c.x, c.y, c.demand, c.start, .fin c.stop, c.service⟩ := by
  induction cs generalizing ci with
  | nil => exact ⟨List.prefix_refl ci, fun _ _ => rfl⟩
  | cons c cs ih =>
    obtain ⟨hpre, hobs⟩ := ih (collect ci (c.x, c.y)).2
    refine ⟨(collect_prefix ci _).trans hpre, fun cs' h => ?_⟩
    simp only [solomonJobs, List.map_cons, hobs cs' h, obsJob, obsSingle, collect_get (hpre.trans h), deliveryJob,
      expSingle, static4, Int.sub_zero, Bool.false_eq_true, if_false]

theorem wfSolomon_facts {F : SolomonFile} (h : wfSolomon F = true) : 1 ≤ F.vehicles ∧ 0 ≤ F.capacity := by
  unfold wfSolomon at h
  simp only [Bool.and_eq_true, decide_eq_true_eq] at h
  exact ⟨h.1.1.1.1.1.1.1, h.1.1.1.1.1.1.2⟩

theorem solomon_observe (rounded : Bool) (F : SolomonFile) (h : wfSolomon F = true) :
    ∃ P, parseSolomon rounded (printSolomon F) = .ok P ∧
      observe P = dumpOf rounded (meaningSolomon F) ((meaningSolomon F).customers.map (deliveryJob 0)) := by
  obtain ⟨hv, hc⟩ := wfSolomon_facts h
  obtain ⟨hpre, hobs⟩ := solomonJobs_spec F.customers (collect [] (F.depot.x, F.depot.y)).2
  refine ⟨{ vehicles := mkFleet F.vehicles F.capacity (collect [] (F.depot.x, F.depot.y)).1 F.depot.ready
              (.fin F.depot.due),
            jobs := (solomonJobs (collect [] (F.depot.x, F.depot.y)).2 F.customers).1,
            coords := (solomonJobs (collect [] (F.depot.x, F.depot.y)).2 F.customers).2, rounded := rounded }, ?_,
    observe_eq_dumpOf _ (meaningSolomon F) _ (obs_mkFleet _ _ _ _ _ _ _ (collect_get hpre)) ?_⟩
  · simp only [parseSolomon, printSolomon, List.cons_append, List.nil_append, List.drop_succ_cons, List.drop_zero,
      vehicleLine_ok hv hc, if_false, readCustomer7, mapE_map_ok readCustomer7 custLine F.customers fun _ => rfl, Int.toNat_natCast]
  · rw [hobs _ (List.prefix_refl _), meaningSolomon, List.map_map]; rfl

theorem solomon_shows (rounded : Bool) (F : SolomonFile) (h : wfSolomon F = true) :
    ∃ P, parseSolomon rounded (printSolomon F) = .ok P ∧ Shows false 0 rounded (observe P) (meaningSolomon F) :=
  shows_of_observe (solomon_observe rounded F h) (shows_deliveries 0 rounded (wfSolomon_facts h).1)

end C13
