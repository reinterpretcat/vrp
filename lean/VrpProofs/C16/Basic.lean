import VrpModel.C16
import Mathlib.Data.Nat.Sqrt
import Mathlib.Tactic.Ring
import Mathlib.Tactic.Linarith
import Mathlib.Tactic.FieldSimp
/-!
# C16 — numbers, flat index, interpolation arithmetic, the `u64` key
-/

namespace C16

/-- `sqrtRound` only sees the nearest square: `n*n + a` with `a ≤ n` still rounds to `n` (D1) -/
theorem sqrtRound_add (n a : Nat) (h : a ≤ n) : sqrtRound (n * n + a) = n := by
  unfold sqrtRound
  have hs : Nat.sqrt (n * n + a) = n := Nat.sqrt_add_eq n (by omega)
  simp only [hs]
  have : ¬ (n * n + n < n * n + a) := by omega
  simp [this]

theorem sqrtRound_sq (n : Nat) : sqrtRound (n * n) = n := sqrtRound_add n 0 (Nat.zero_le n)

theorem flatIdx_lt (n frm dst : Nat) (hf : frm < n) (ht : dst < n) : flatIdx n frm dst < n * n := by
  unfold flatIdx
  have h1 : frm * n + n ≤ n * n := by
    have : (frm + 1) * n ≤ n * n := Nat.mul_le_mul_right n hf
    rw [Nat.add_mul, Nat.one_mul] at this
    exact this
  omega

theorem flatIdx_inj (n f t f' t' : Nat) (ht : t < n) (ht' : t' < n) (h : flatIdx n f t = flatIdx n f' t') :
    f = f' ∧ t = t' := by
  unfold flatIdx at h
  have hn : 0 < n := by omega
  have h1 : (f * n + t) / n = f := by
    rw [Nat.mul_comm, Nat.mul_add_div hn, Nat.div_eq_of_lt ht, Nat.add_zero]
  have h2 : (f' * n + t') / n = f' := by
    rw [Nat.mul_comm, Nat.mul_add_div hn, Nat.div_eq_of_lt ht', Nat.add_zero]
  have hf : f = f' := by rw [← h1, ← h2, h]
  subst hf
  exact ⟨rfl, by omega⟩

theorem entry_exists (l : List Int) (n frm dst : Nat) (hl : l.length = n * n) (hf : frm < n) (hd : dst < n) :
    ∃ v, l[frm * n + dst]? = some v := by
  have := flatIdx_lt n frm dst hf hd
  unfold flatIdx at this
  exact ⟨l[frm * n + dst]'(by omega), List.getElem?_eq_getElem (by omega)⟩

/-- the code's formula `left + ratio * (right - left)` is the straight line through the two bracketing points -/
theorem code_formula_eq_line (t0 t1 lv rv t : Rat) (h : t0 ≠ t1) :
    lv + (t - t0) / (t1 - t0) * (rv - lv) = lineThrough t0 lv t1 rv t := by
  unfold lineThrough
  have hd : t1 - t0 ≠ 0 := sub_ne_zero.mpr (Ne.symm h)
  field_simp
  ring

theorem lineThrough_left (t0 t1 v0 v1 : Rat) (h : t0 ≠ t1) : lineThrough t0 v0 t1 v1 t0 = v0 := by
  rw [← code_formula_eq_line _ _ _ _ _ h, sub_self, zero_div, zero_mul, add_zero]

theorem lineThrough_right (t0 t1 v0 v1 : Rat) (h : t0 ≠ t1) : lineThrough t0 v0 t1 v1 t1 = v1 := by
  rw [← code_formula_eq_line _ _ _ _ _ h, div_self (sub_ne_zero.mpr (Ne.symm h)), one_mul, add_sub_cancel]

theorem lineThrough_affine (t0 t1 v0 v1 : Rat) (h : t0 ≠ t1) :
    ∃ a b : Rat, a * t0 + b = v0 ∧ a * t1 + b = v1 ∧ ∀ t, lineThrough t0 v0 t1 v1 t = a * t + b := by
  have e : ∀ t, lineThrough t0 v0 t1 v1 t = (v1 - v0) / (t1 - t0) * t + (v0 * t1 - v1 * t0) / (t1 - t0) :=
    fun t => by unfold lineThrough; ring
  exact ⟨_, _, (e t0).symm.trans (lineThrough_left _ _ _ _ h), (e t1).symm.trans (lineThrough_right _ _ _ _ h), e⟩

/-- a weighted mean of the two values with the non-negative weights `t1 - t` and `t - t0` -/
theorem lineThrough_hull (t0 t1 v0 v1 t : Rat) (h01 : t0 < t1) (h0 : t0 ≤ t) (h1 : t ≤ t1) :
    min v0 v1 ≤ lineThrough t0 v0 t1 v1 t ∧ lineThrough t0 v0 t1 v1 t ≤ max v0 v1 := by
  unfold lineThrough
  have hd : 0 < t1 - t0 := sub_pos.mpr h01
  have ha : 0 ≤ t1 - t := sub_nonneg.mpr h1
  have hb : 0 ≤ t - t0 := sub_nonneg.mpr h0
  have e : ∀ c : Rat, c * (t1 - t0) = c * (t1 - t) + c * (t - t0) := fun c => by ring
  constructor
  · rw [le_div_iff₀ hd, e]
    exact add_le_add (mul_le_mul_of_nonneg_right (min_le_left v0 v1) ha)
      (mul_le_mul_of_nonneg_right (min_le_right v0 v1) hb)
  · rw [div_le_iff₀ hd, e]
    exact add_le_add (mul_le_mul_of_nonneg_right (le_max_left v0 v1) ha)
      (mul_le_mul_of_nonneg_right (le_max_right v0 v1) hb)

theorem keyOfRat_intCast (ts : Int) : keyOfRat (ts : Rat) = keyOfInt ts := by
  unfold keyOfRat; rw [Rat.floor_intCast]

theorem keyOfInt_mono {a b : Int} (h : a ≤ b) : keyOfInt a ≤ keyOfInt b :=
  min_le_min_right _ (Int.toNat_le_toNat h)

theorem keyOfInt_lt_imp {a b : Int} (h : keyOfInt a < keyOfInt b) : a < b :=
  lt_of_not_ge fun hba => absurd (keyOfInt_mono hba) (Nat.not_le.mpr h)

theorem key_lt_query (ts : Int) (t : Rat) (h : keyOfInt ts < keyOfRat t) : (ts : Rat) ≤ t :=
  Rat.le_floor_iff.mp (Int.le_of_lt (keyOfInt_lt_imp h))

theorem query_lt_key (ts : Int) (t : Rat) (h : keyOfRat t < keyOfInt ts) : t < (ts : Rat) :=
  Rat.floor_lt_iff.mp (keyOfInt_lt_imp h)

theorem key_ne_imp_ts_ne (a b : Int) (h : keyOfInt a ≠ keyOfInt b) : (a : Rat) ≠ (b : Rat) := by
  intro e
  have : a = b := by exact_mod_cast e
  subst this
  exact h rfl

end C16
