import VrpProofs.C16.Basic
/-!
# C16 — lists sorted by a key: an element stands behind the elements with smaller keys
-/

namespace C16

variable {α : Type}

theorem mergeSort_key_sorted (κ : α → Nat) (l : List α) :
    (l.mergeSort (fun a b => decide (κ a ≤ κ b))).Pairwise (fun a b => κ a ≤ κ b) :=
  (List.pairwise_mergeSort (le := fun a b => decide (κ a ≤ κ b))
    (fun a b c hab hbc => by simp only [decide_eq_true_eq] at *; omega)
    (fun a b => by simp only [Bool.or_eq_true, decide_eq_true_eq]; omega) l).imp fun hab => by simpa using hab

theorem sorted_split (κ : α → Nat) (S : List α) (hs : S.Pairwise (fun a b => κ a ≤ κ b)) (k : Nat) :
    S = S.filter (fun x => decide (κ x < k)) ++ S.filter (fun x => !decide (κ x < k)) := by
  induction S with
  | nil => rfl
  | cons x S ih =>
    obtain ⟨hx, hS⟩ := List.pairwise_cons.mp hs
    by_cases h : κ x < k
    · rw [List.filter_cons_of_pos (by simpa using h), List.filter_cons_of_neg (by simpa using h), List.cons_append,
        ← ih hS]
    · have h1 : S.filter (fun x => decide (κ x < k)) = [] :=
        List.filter_eq_nil_iff.mpr fun y hy => by have := hx y hy; simp only [decide_eq_true_eq]; omega
      have h2 : S.filter (fun x => !decide (κ x < k)) = S :=
        List.filter_eq_self.mpr fun y hy => by have := hx y hy; simp only [Bool.not_eq_true', decide_eq_false_iff_not]; omega
      rw [List.filter_cons_of_neg (by simpa using h), List.filter_cons_of_pos (by simpa using h), h1, h2,
        List.nil_append]

theorem getLast?_append_nil_right (A B : List α) (hB : B = []) : (A ++ B).getLast? = A.getLast? := by
  subst hB; simp

theorem pairwise_getLast (κ : α → Nat) (A : List α) (hs : A.Pairwise (fun a b => κ a ≤ κ b)) (z : α)
    (hz : A.getLast? = some z) : ∀ x ∈ A, κ x ≤ κ z := fun x hx => by
  obtain ⟨ys, rfl⟩ := List.getLast?_eq_some_iff.mp hz
  rcases List.mem_append.mp hx with h | h
  · exact (List.pairwise_append.mp hs).2.2 x h z List.mem_cons_self
  · rw [List.mem_singleton.mp h]

theorem sorted_getElem?_count_lt (κ : α → Nat) (S : List α) (hs : S.Pairwise (fun a b => κ a ≤ κ b)) (m : α)
    (hm : m ∈ S) : ∃ h, S[(S.filter (fun x => decide (κ x < κ m))).length]? = some h ∧ κ h = κ m := by
  have hB : m ∈ S.filter (fun x => !decide (κ x < κ m)) := List.mem_filter.mpr ⟨hm, by simp⟩
  have hBs := hs.filter (fun x => !decide (κ x < κ m))
  have hBk : ∀ x ∈ S.filter (fun x => !decide (κ x < κ m)), ¬ κ x < κ m := fun x hx => by
    simpa using (List.mem_filter.mp hx).2
  have hsplit := sorted_split κ S hs (κ m)
  generalize S.filter (fun x => decide (κ x < κ m)) = A at hsplit ⊢
  generalize S.filter (fun x => !decide (κ x < κ m)) = B at hsplit hB hBs hBk
  rw [hsplit, List.getElem?_append_right (Nat.le_refl _), Nat.sub_self]
  match B, hB, hBs, hBk with
  | h :: B, hB, hBs, hBk =>
    refine ⟨h, rfl, Nat.le_antisymm ?_ (Nat.le_of_not_lt (hBk h List.mem_cons_self))⟩
    rcases List.mem_cons.mp hB with e | e
    · rw [e]
    · exact (List.pairwise_cons.mp hBs).1 m e

theorem sorted_getElem?_count_le_pred (κ : α → Nat) (S : List α) (hs : S.Pairwise (fun a b => κ a ≤ κ b)) (m : α)
    (hm : m ∈ S) : ∃ h, S[(S.filter (fun x => decide (κ x ≤ κ m))).length - 1]? = some h ∧ κ h = κ m := by
  rw [List.filter_congr (q := fun x => decide (κ x < κ m + 1)) fun x _ => by simp only [decide_eq_decide]; omega]
  have hA : m ∈ S.filter (fun x => decide (κ x < κ m + 1)) := List.mem_filter.mpr ⟨hm, by simp⟩
  have hAs := hs.filter (fun x => decide (κ x < κ m + 1))
  have hAk : ∀ x ∈ S.filter (fun x => decide (κ x < κ m + 1)), κ x < κ m + 1 := fun x hx => by
    simpa using (List.mem_filter.mp hx).2
  have hsplit := sorted_split κ S hs (κ m + 1)
  generalize S.filter (fun x => decide (κ x < κ m + 1)) = A at hsplit hA hAs hAk ⊢
  rw [hsplit, List.getElem?_append_left (Nat.sub_lt (List.length_pos_of_mem hA) Nat.one_pos),
    ← List.getLast?_eq_getElem?]
  obtain ⟨z, hz⟩ := Option.isSome_iff_exists.mp (List.getLast?_isSome.mpr (List.ne_nil_of_mem hA))
  exact ⟨z, hz, Nat.le_antisymm (Nat.le_of_lt_succ (hAk z (List.mem_of_getLast? hz))) (pairwise_getLast κ A hAs z hz m hA)⟩

end C16
