import VrpProofs.C16.Search
/-!
# C16 — the time-aware provider: sort + bracket search = order-free selection
-/

namespace C16

theorem groupOf_eq_supplied (ms : List MatrixData) (p : Nat) : groupOf ms p = supplied ms p := rfl

/-- no two matrices of the list share a `u64` key -/
def DistinctKeys (g : List MatrixData) : Prop := g.Pairwise (fun a b => a.key ≠ b.key)

theorem DistinctKeys.eq_of_key {g : List MatrixData} (h : DistinctKeys g) {a b : MatrixData}
    (ha : a ∈ g) (hb : b ∈ g) (hk : a.key = b.key) : a = b :=
  List.Pairwise.forall_of_forall_of_flip (R := fun a b => a.key = b.key → a = b) (fun _ _ _ => rfl)
    (h.imp fun hne hk => absurd hk hne) (h.imp fun hne hk => absurd hk.symm hne) ha hb hk

theorem sortByKey_perm (g : List MatrixData) : (sortByKey g).Perm g := List.mergeSort_perm _ _

theorem mem_sortByKey (g : List MatrixData) (m : MatrixData) : m ∈ sortByKey g ↔ m ∈ g :=
  (sortByKey_perm g).mem_iff

theorem sortByKey_sorted (g : List MatrixData) : (sortByKey g).Pairwise (fun a b => a.key ≤ b.key) :=
  mergeSort_key_sorted MatrixData.key g

theorem sortByKey_length (g : List MatrixData) : (sortByKey g).length = g.length := (sortByKey_perm g).length_eq

theorem filter_map_key_length (S : List MatrixData) (p : Nat → Bool) :
    ((S.map MatrixData.key).filter p).length = (S.filter (fun m => p m.key)).length := by
  rw [List.filter_map, List.length_map]
  rfl

theorem search_err (S : List MatrixData) (k : Nat) (hk : ∀ m ∈ S, m.key ≠ k) :
    searchKeys (S.map MatrixData.key) k = .error (S.filter (fun x => decide (x.key < k))).length := by
  unfold searchKeys
  have hc : ¬ ((S.map MatrixData.key).contains k = true) := by
    rw [List.contains_iff_mem]
    intro h
    obtain ⟨m, hm, hmk⟩ := List.mem_map.mp h
    exact hk m hm hmk
  rw [if_neg hc, filter_map_key_length]

theorem interpRaw_ok (S : List MatrixData) (idx : Nat) (t : Rat) (i : Nat)
    (h : searchKeys (S.map MatrixData.key) (keyOfRat t) = .ok i) :
    interpDurationRaw S idx t = (S[i]?).bind (durAt · idx) ∧
    interpDistanceRaw S idx t = (S[i]?).bind (distAt · idx) := by
  unfold interpDurationRaw interpDistanceRaw; rw [h]; exact ⟨rfl, rfl⟩

theorem interpRaw_err_zero (S : List MatrixData) (idx : Nat) (t : Rat)
    (h : searchKeys (S.map MatrixData.key) (keyOfRat t) = .error 0) :
    interpDurationRaw S idx t = S.head?.bind (durAt · idx) ∧
    interpDistanceRaw S idx t = S.head?.bind (distAt · idx) := by
  unfold interpDurationRaw interpDistanceRaw; rw [h]; exact ⟨rfl, rfl⟩

theorem interpRaw_err_len (S : List MatrixData) (idx : Nat) (t : Rat) (hS : S ≠ [])
    (h : searchKeys (S.map MatrixData.key) (keyOfRat t) = .error S.length) :
    interpDurationRaw S idx t = S.getLast?.bind (durAt · idx) ∧
    interpDistanceRaw S idx t = S.getLast?.bind (distAt · idx) := by
  unfold interpDurationRaw interpDistanceRaw; rw [h]
  cases hl : S.length with
  | zero => exact absurd (List.length_eq_zero_iff.mp hl) hS
  | succ n => simp only [beq_self_eq_true, if_true, and_self]

theorem interpRaw_err_mid (S : List MatrixData) (idx : Nat) (t : Rat) (i : Nat) (h0 : i ≠ 0)
    (hlen : i ≠ S.length) (l r : MatrixData) (hl : S[i - 1]? = some l) (hr : S[i]? = some r)
    (h : searchKeys (S.map MatrixData.key) (keyOfRat t) = .error i) :
    interpDurationRaw S idx t =
      (match durAt l idx, durAt r idx with
       | some lv, some rv =>
         some (lv + (t - ((l.timestamp.getD 0 : Int) : Rat)) /
           (((r.timestamp.getD 0 : Int) : Rat) - ((l.timestamp.getD 0 : Int) : Rat)) * (rv - lv))
       | _, _ => none) ∧
    interpDistanceRaw S idx t = distAt l idx := by
  unfold interpDurationRaw interpDistanceRaw; rw [h]
  cases i with
  | zero => exact absurd rfl h0
  | succ n =>
    have : ((n + 1) == S.length) = false := beq_false_of_ne hlen
    simp only [this, Bool.false_eq_true, if_false]
    rw [Nat.add_sub_cancel] at hl ⊢
    rw [hl, hr]; exact ⟨rfl, rfl⟩

section selection
variable (g : List MatrixData) (hd : DistinctKeys g)
include hd

theorem sortByKey_getElem? (m : MatrixData) (hm : m ∈ g) :
    (sortByKey g)[((sortByKey g).filter (fun x => decide (x.key < m.key))).length]? = some m ∧
    (sortByKey g)[((sortByKey g).filter (fun x => decide (x.key ≤ m.key))).length - 1]? = some m := by
  have hmS := (mem_sortByKey g m).mpr hm
  have same : ∀ {i : Nat} {h : MatrixData}, (sortByKey g)[i]? = some h → h.key = m.key → (sortByKey g)[i]? = some m := fun hget hk => by
    rwa [hd.eq_of_key ((mem_sortByKey g _).mp (List.mem_of_getElem? hget)) hm hk] at hget
  obtain ⟨_, g1, k1⟩ := sorted_getElem?_count_lt MatrixData.key _ (sortByKey_sorted g) m hmS
  obtain ⟨_, g2, k2⟩ := sorted_getElem?_count_le_pred MatrixData.key _ (sortByKey_sorted g) m hmS
  exact ⟨same g1 k1, same g2 k2⟩

theorem select_exact (t : Rat) (m : MatrixData) (hm : m ∈ g) (hk : m.key = keyOfRat t) (idx : Nat) :
    interpDurationRaw (sortByKey g) idx t = durAt m idx ∧ interpDistanceRaw (sortByKey g) idx t = distAt m idx := by
  have hget := (sortByKey_getElem? g hd m hm).2
  rw [hk, ← filter_map_key_length _ (fun x => decide (x ≤ keyOfRat t))] at hget
  have hi : searchKeys ((sortByKey g).map MatrixData.key) (keyOfRat t) = .ok _ :=
    if_pos (List.contains_iff_mem.mpr (List.mem_map.mpr ⟨m, (mem_sortByKey g m).mpr hm, hk⟩))
  rw [(interpRaw_ok _ idx t _ hi).1, (interpRaw_ok _ idx t _ hi).2, hget]
  exact ⟨rfl, rfl⟩

theorem select_first (t : Rat) (f : MatrixData) (hf : f ∈ g)
    (h : ∀ x ∈ g, keyOfRat t < x.key ∧ f.key ≤ x.key) (idx : Nat) :
    interpDurationRaw (sortByKey g) idx t = durAt f idx ∧ interpDistanceRaw (sortByKey g) idx t = distAt f idx := by
  have herr := search_err (sortByKey g) (keyOfRat t) fun m hm => by
    have := h m ((mem_sortByKey g m).mp hm); omega
  have hget := (sortByKey_getElem? g hd f hf).1
  rw [List.filter_eq_nil_iff.mpr fun x hx => by
    have := h x ((mem_sortByKey g x).mp hx); simp only [decide_eq_true_eq]; omega, List.length_nil] at herr hget
  rw [(interpRaw_err_zero _ idx t herr).1, (interpRaw_err_zero _ idx t herr).2, List.head?_eq_getElem?, hget]
  exact ⟨rfl, rfl⟩

theorem select_last (t : Rat) (z : MatrixData) (hz : z ∈ g)
    (h : ∀ x ∈ g, x.key < keyOfRat t ∧ x.key ≤ z.key) (idx : Nat) :
    interpDurationRaw (sortByKey g) idx t = durAt z idx ∧ interpDistanceRaw (sortByKey g) idx t = distAt z idx := by
  have herr := search_err (sortByKey g) (keyOfRat t) fun m hm => by
    have := h m ((mem_sortByKey g m).mp hm); omega
  have hget := (sortByKey_getElem? g hd z hz).2
  rw [List.filter_eq_self.mpr fun x hx => by
    have := h x ((mem_sortByKey g x).mp hx); simp only [decide_eq_true_eq]; omega] at herr hget
  have hSne : sortByKey g ≠ [] := List.ne_nil_of_mem ((mem_sortByKey g z).mpr hz)
  rw [(interpRaw_err_len _ idx t hSne herr).1, (interpRaw_err_len _ idx t hSne herr).2, List.getLast?_eq_getElem?, hget]
  exact ⟨rfl, rfl⟩

theorem select_between (t : Rat) (l r : MatrixData) (hl : l ∈ g) (hr : r ∈ g)
    (hlk : l.key < keyOfRat t) (hkr : keyOfRat t < r.key) (hadj : ∀ x ∈ g, x.key ≤ l.key ∨ r.key ≤ x.key) (idx : Nat) :
    interpDurationRaw (sortByKey g) idx t =
      (match durAt l idx, durAt r idx with
       | some lv, some rv => some (lineThrough (l.timestamp.getD 0 : Int) lv (r.timestamp.getD 0 : Int) rv t)
       | _, _ => none) ∧
    interpDistanceRaw (sortByKey g) idx t = distAt l idx := by
  have herr := search_err (sortByKey g) (keyOfRat t) fun m hm => by
    have := hadj m ((mem_sortByKey g m).mp hm); omega
  -- the keys below the query's are those up to `l`'s, and those below `r`'s
  have hgl := (sortByKey_getElem? g hd l hl).2
  have hgr := (sortByKey_getElem? g hd r hr).1
  rw [← List.filter_congr (p := fun x => decide (x.key < keyOfRat t)) fun x hx => by
    have := hadj x ((mem_sortByKey g x).mp hx); simp only [decide_eq_decide]; omega] at hgl hgr
  have h0 : ((sortByKey g).filter (fun x => decide (x.key < keyOfRat t))).length ≠ 0 := fun e =>
    List.ne_nil_of_mem (List.mem_filter.mpr ⟨(mem_sortByKey g l).mpr hl, by simpa using hlk⟩) (List.length_eq_zero_iff.mp e)
  have hlen := Nat.ne_of_lt (List.getElem?_eq_some_iff.mp hgr).1
  obtain ⟨h1, h2⟩ := interpRaw_err_mid _ idx t _ h0 hlen l r hgl hgr herr
  refine ⟨?_, h2⟩
  rw [h1]
  cases durAt l idx <;> cases durAt r idx <;> try rfl
  exact congrArg some (code_formula_eq_line _ _ _ _ _ (key_ne_imp_ts_ne _ _ (show l.key ≠ r.key by omega)))

end selection

end C16
