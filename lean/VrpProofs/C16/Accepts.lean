import VrpProofs.C16.Builder
/-!
# C16 — a well-formed matrix set is accepted
-/

namespace C16

theorem filter_lt_succ_length (S : List MatrixData) (i : Nat) :
    (S.filter (fun m => decide (m.index < i + 1))).length =
      (S.filter (fun m => decide (m.index < i))).length + (S.filter (fun m => m.index == i)).length := by
  -- split the matrices with an index below `i + 1` by `index < i`
  rw [List.length_eq_countP_add_countP (fun m => decide (m.index < i)), List.countP_filter, List.countP_filter,
    ← List.countP_eq_length_filter, ← List.countP_eq_length_filter]
  congr 1 <;> refine List.countP_congr fun x _ => ?_
  · simp only [Bool.and_eq_true, decide_eq_true_eq]; omega
  · simp only [Bool.and_eq_true, decide_eq_true_eq, beq_iff_eq, decide_not, Bool.not_eq_true', decide_eq_false_iff_not]; omega

theorem filter_lt_length (S : List MatrixData) (k : Nat)
    (hone : ∀ i, i < k → (S.filter (fun m => m.index == i)).length = 1) (i : Nat) (hi : i ≤ k) :
    (S.filter (fun m => decide (m.index < i))).length = i := by
  induction i with
  | zero => simp
  | succ j ih => rw [filter_lt_succ_length, ih (by omega), hone j (by omega)]

/-- a matrix with index `i` stands behind the `i` matrices with a smaller index -/
theorem sorted_is_range (ms : List MatrixData) (hone : ∀ i, i < ms.length → (supplied ms i).length = 1) :
    indicesAreRange 0 (sortByIndex ms) = true := by
  have hperm := sortByIndex_perm ms
  have hone' : ∀ i, i < ms.length → ((sortByIndex ms).filter (fun m => m.index == i)).length = 1 := fun i hi => by
    rw [(hperm.filter _).length_eq]; exact hone i hi
  refine (indicesAreRange_iff _ 0).mpr fun i x hx => ?_
  have hi : i < ms.length := hperm.length_eq ▸ (List.getElem?_eq_some_iff.mp hx).1
  obtain ⟨m, hm⟩ := List.exists_mem_of_length_pos (Nat.lt_of_lt_of_eq Nat.one_pos (hone' i hi).symm)
  obtain ⟨hmS, hmi⟩ := List.mem_filter.mp hm
  obtain ⟨h, hget, hk⟩ := sorted_getElem?_count_lt MatrixData.index _ (sortByIndex_sorted ms) m hmS
  rw [eq_of_beq hmi, filter_lt_length _ ms.length hone' i (Nat.le_of_lt hi), hx] at hget
  rw [Option.some.inj hget, hk, eq_of_beq hmi, Nat.zero_add]

theorem distinctKeys_of_count (g : List MatrixData)
    (h : ∀ m ∈ g, (g.filter (fun x => x.key == m.key)).length = 1) : DistinctKeys g :=
  -- two matrices of `g` with one key are a two-element sublist of the matrices with that key
  List.pairwise_iff_forall_sublist.mpr fun {a b} hab hk => by
    have := (hab.filter (fun x => x.key == a.key)).length_le
    rw [h a (hab.subset List.mem_cons_self),
      List.filter_cons_of_pos (p := fun x : MatrixData => x.key == a.key) (beq_self_eq_true _),
      List.filter_cons_of_pos (p := fun x : MatrixData => x.key == a.key) (beq_of_eq hk.symm)] at this
    exact absurd this (Nat.not_succ_le_self 1)

theorem build_accepts_well_formed (ms : List MatrixData) (n : Nat) (h : wellFormed ms n = true) :
    ∃ pr, build ms = .ok pr ∧ pr.size = n := by
  unfold wellFormed at h
  simp only [Bool.and_eq_true, Bool.or_eq_true, Bool.not_eq_true', List.all_eq_true, beq_iff_eq, bne_iff_ne, ne_eq,
    List.mem_range] at h
  -- in Prop form: non-empty, every matrix `n × n`, and either all untimed with every index below the length once,
  -- or all timed with no single-matrix profile and every key once within its profile
  obtain ⟨⟨hne, hdim⟩, hkind⟩ := h
  cases ms with
  | nil => simp at hne
  | cons first rest =>
    have hfirst := (hdim first List.mem_cons_self).1
    have hsz : sqrtRound first.durations.length = n := by rw [hfirst, sqrtRound_sq]
    -- the dimension guards of `build` pass; what is left is the constructor for the kind of set
    have hb : ∀ pr, (if (first :: rest).any (fun m => m.timestamp.isSome) = true then newAware (first :: rest) n
        else newAgnostic (first :: rest) n) = .ok pr → build (first :: rest) = .ok pr := fun pr h =>
      (build_cons_iff first rest pr).mpr ⟨fun m hm => (hdim m hm).2.trans (hdim m hm).1.symm,
        fun m hm => (hdim m hm).1.trans (by rw [hsz]), by rw [hsz]; exact h⟩
    rcases hkind with ⟨hunt, hone⟩ | ⟨htimed, hgroups⟩
    · have hnone : ∀ m ∈ first :: rest, m.timestamp.isSome = false := fun m hm => by
        rw [Option.isNone_iff_eq_none.mp (hunt m hm)]; rfl
      refine ⟨.agnostic n (sortByIndex (first :: rest)), hb _ ?_, rfl⟩
      rw [if_neg (not_any_iff.mpr hnone)]
      exact (newAgnostic_ok_iff _ n _).mpr
        ⟨fun m hm => hnone m ((sortByIndex_perm _).mem_iff.mp hm), sorted_is_range _ hone, rfl⟩
    · refine ⟨.aware n (first :: rest), hb _ ?_, rfl⟩
      rw [if_pos (List.any_eq_true.mpr ⟨first, List.mem_cons_self, htimed first List.mem_cons_self⟩)]
      exact (newAware_ok_iff _ n _).mpr ⟨fun m hm => by
          obtain ⟨ts, hts⟩ := Option.isSome_iff_exists.mp (htimed m hm); rw [hts]; rfl,
        fun m hm => beq_false_of_ne (hgroups m hm).1,
        fun m hm => distinctKeys_of_count _ fun x hx => by
          obtain ⟨hxm, hxi⟩ := List.mem_filter.mp hx
          rw [← eq_of_beq hxi]; exact (hgroups x hxm).2, rfl⟩

theorem build_well_formed_timed (ms : List MatrixData) (n : Nat) (h : wellFormed ms n = true)
    (ht : ∃ m ∈ ms, m.timestamp.isSome = true) : build ms = .ok (.aware n ms) := by
  obtain ⟨pr, hb, hn⟩ := build_accepts_well_formed ms n h
  rw [hb, (build_timed ms pr hb ht).1, hn]

theorem build_well_formed_untimed (ms : List MatrixData) (n : Nat) (h : wellFormed ms n = true)
    (hunt : ∀ m ∈ ms, m.timestamp = none) : build ms = .ok (.agnostic n (sortByIndex ms)) := by
  obtain ⟨pr, hb, hn⟩ := build_accepts_well_formed ms n h
  rw [hb, (build_untimed ms pr hb hunt).1, hn]

theorem wellFormed_distinct (ms : List MatrixData) (n : Nat) (h : wellFormed ms n = true)
    (ht : ∃ m ∈ ms, m.timestamp.isSome = true) (p : Nat) : DistinctKeys (supplied ms p) := by
  obtain ⟨pr, hb, _⟩ := build_accepts_well_formed ms n h
  exact (build_timed ms pr hb ht).2.2.2 p

end C16
