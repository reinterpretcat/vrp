import VrpProofs.C16.Aware
/-!
# C16 — the builder: what an accepted matrix set looks like; the time-agnostic lookup
-/

namespace C16

/-- one guard of a chain `if c then .error e else …` -/
theorem ite_error_eq_ok {ε α : Type} {c : Prop} [Decidable c] {e : ε} {x : Except ε α} {p : α} :
    (if c then .error e else x) = .ok p ↔ ¬ c ∧ x = .ok p := by
  by_cases hc : c
  · rw [if_pos hc]; exact ⟨fun h => (nomatch h), fun h => absurd hc h.1⟩
  · rw [if_neg hc]; exact ⟨fun h => ⟨hc, h⟩, fun h => h.2⟩

theorem not_any_iff {α : Type} {l : List α} {p : α → Bool} : ¬ (l.any p = true) ↔ ∀ x ∈ l, p x = false := by
  simp only [Bool.not_eq_true, List.any_eq_false]

/-- what `TimeAgnosticMatrixTransportCost::new` accepts -/
theorem newAgnostic_ok_iff (ms : List MatrixData) (size : Nat) (pr : Provider) :
    newAgnostic ms size = .ok pr ↔
      (∀ m ∈ sortByIndex ms, m.timestamp.isSome = false) ∧ indicesAreRange 0 (sortByIndex ms) = true ∧
      .agnostic size (sortByIndex ms) = pr := by
  unfold newAgnostic
  simp only [ite_error_eq_ok, not_any_iff, Bool.not_eq_true', Bool.not_eq_false, Except.ok.injEq]

/-- `timestamps.windows(2).any(|pair| pair[0] == pair[1])` on a sorted list -/
theorem adjacentEqual_eq_false_iff (ks : List Nat) (hs : ks.Pairwise (· ≤ ·)) :
    adjacentEqual ks = false ↔ ks.Pairwise (· < ·) := by
  induction ks with
  | nil => exact ⟨fun _ => List.Pairwise.nil, fun _ => rfl⟩
  | cons a ks ih =>
    obtain ⟨ha, hks⟩ := List.pairwise_cons.mp hs
    cases ks with
    | nil => exact ⟨fun _ => List.pairwise_singleton _ _, fun _ => rfl⟩
    | cons b ks' =>
      rw [adjacentEqual, Bool.or_eq_false_iff, beq_eq_false_iff_ne, ih hks, List.pairwise_cons (a := a)]
      have hab := ha b List.mem_cons_self
      constructor
      · rintro ⟨hne, hp⟩
        refine ⟨fun z hz => ?_, hp⟩
        rcases List.mem_cons.mp hz with e | e
        · rw [e]; omega
        · have := (List.pairwise_cons.mp hp).1 z e; omega
      · rintro ⟨hlt, hp⟩
        exact ⟨Nat.ne_of_lt (hlt b List.mem_cons_self), hp⟩

theorem distinctKeys_iff_sorted_check (g : List MatrixData) :
    DistinctKeys g ↔ adjacentEqual ((sortByKey g).map MatrixData.key) = false := by
  have hs := sortByKey_sorted g
  rw [adjacentEqual_eq_false_iff _ (List.pairwise_map.mpr hs), List.pairwise_map, DistinctKeys,
    ← List.Perm.pairwise_iff (fun {a b} (hab : a.key ≠ b.key) => hab.symm) (sortByKey_perm g)]
  exact ⟨fun h => (hs.and h).imp fun hab => by omega, fun h => h.imp fun hab => by omega⟩

/-- what `TimeAwareMatrixTransportCost::new` accepts -/
theorem newAware_ok_iff (ms : List MatrixData) (size : Nat) (pr : Provider) :
    newAware ms size = .ok pr ↔
      (∀ m ∈ ms, m.timestamp.isNone = false) ∧ (∀ m ∈ ms, ((groupOf ms m.index).length == 1) = false) ∧
      (∀ m ∈ ms, DistinctKeys (groupOf ms m.index)) ∧ .aware size ms = pr := by
  unfold newAware
  simp only [ite_error_eq_ok, not_any_iff, distinctKeys_iff_sorted_check, Except.ok.injEq]

/-- the guards of `create_matrix_transport_cost_with_fallback` in front of the two constructors; the two comparisons of
    rounded roots follow from the checks around them -/
theorem build_cons_iff (first : MatrixData) (rest : List MatrixData) (pr : Provider) :
    build (first :: rest) = .ok pr ↔
      (∀ m ∈ first :: rest, m.distances.length = m.durations.length) ∧
      (∀ m ∈ first :: rest, m.durations.length = sqrtRound first.durations.length * sqrtRound first.durations.length) ∧
      (if (first :: rest).any (fun m => m.timestamp.isSome) = true then
          newAware (first :: rest) (sqrtRound first.durations.length)
        else newAgnostic (first :: rest) (sqrtRound first.durations.length)) = .ok pr := by
  unfold build
  simp only [ite_error_eq_ok, not_any_iff, bne_eq_false_iff_eq]
  exact ⟨fun ⟨h1, _, _, h4, h⟩ => ⟨h1, h4, h⟩, fun ⟨h1, h4, h⟩ =>
    ⟨h1, fun m hm => by rw [h1 m hm, h4 m hm, sqrtRound_sq], fun m hm => by rw [h4 m hm, sqrtRound_sq], h4, h⟩⟩

/-- what `create_matrix_transport_cost_with_fallback` accepts, in the terms of the specification -/
theorem build_ok (ms : List MatrixData) (pr : Provider) (h : build ms = .ok pr) :
    ms ≠ [] ∧
    (∀ m ∈ ms, m.distances.length = m.durations.length) ∧
    (∀ m ∈ ms, m.durations.length = pr.size * pr.size) ∧
    (((∀ m ∈ ms, m.timestamp.isSome = true) ∧ pr = .aware pr.size ms ∧
        (∀ m ∈ ms, (supplied ms m.index).length ≠ 1) ∧ ∀ p, DistinctKeys (supplied ms p)) ∨
     ((∀ m ∈ ms, m.timestamp = none) ∧ pr = .agnostic pr.size (sortByIndex ms) ∧
        indicesAreRange 0 (sortByIndex ms) = true)) := by
  cases ms with
  | nil => cases h
  | cons first rest =>
    obtain ⟨hlen, hsq, h⟩ := (build_cons_iff first rest pr).mp h
    generalize sqrtRound first.durations.length = size at h hsq
    by_cases ht : (first :: rest).any (fun m => m.timestamp.isSome) = true
    · rw [if_pos ht] at h
      obtain ⟨h1, h2, h3, rfl⟩ := (newAware_ok_iff _ _ _).mp h
      refine ⟨List.cons_ne_nil _ _, hlen, hsq, Or.inl ⟨fun m hm => by rw [← Option.not_isNone, h1 m hm]; rfl, rfl,
        fun m hm => by simpa [groupOf_eq_supplied] using h2 m hm, fun p => ?_⟩⟩
      cases hg : supplied (first :: rest) p with
      | nil => exact List.Pairwise.nil
      | cons x g =>
        obtain ⟨hx, hxi⟩ := List.mem_filter.mp (hg ▸ List.mem_cons_self : x ∈ supplied (first :: rest) p)
        rw [← hg, ← eq_of_beq hxi]
        exact h3 x hx
    · rw [if_neg ht] at h
      obtain ⟨_, hrange, rfl⟩ := (newAgnostic_ok_iff _ _ _).mp h
      exact ⟨List.cons_ne_nil _ _, hlen, hsq, Or.inr ⟨fun m hm =>
        Option.not_isSome_iff_eq_none.mp (Bool.eq_false_iff.mp (not_any_iff.mp ht m hm)), rfl, hrange⟩⟩

theorem build_size (ms : List MatrixData) (pr : Provider) (h : build ms = .ok pr) (n : Nat)
    (hsq : ∀ m ∈ ms, m.durations.length = n * n) : pr.size = n := by
  obtain ⟨hne, _, hsz, _⟩ := build_ok ms pr h
  obtain ⟨m, hm⟩ := List.exists_mem_of_ne_nil _ hne
  rw [← Nat.sqrt_eq pr.size, ← Nat.sqrt_eq n, ← hsz m hm, hsq m hm]

theorem build_untimed (ms : List MatrixData) (pr : Provider) (hb : build ms = .ok pr)
    (hunt : ∀ m ∈ ms, m.timestamp = none) :
    pr = .agnostic pr.size (sortByIndex ms) ∧ indicesAreRange 0 (sortByIndex ms) = true := by
  obtain ⟨hne, _, _, ⟨hall, _⟩ | ⟨_, h⟩⟩ := build_ok ms pr hb
  · obtain ⟨m, hm⟩ := List.exists_mem_of_ne_nil _ hne
    have := hall m hm
    rw [hunt m hm] at this; cases this
  · exact h

theorem build_timed (ms : List MatrixData) (pr : Provider) (hb : build ms = .ok pr)
    (ht : ∃ m ∈ ms, m.timestamp.isSome = true) :
    pr = .aware pr.size ms ∧ (∀ m ∈ ms, m.timestamp.isSome = true) ∧ (∀ m ∈ ms, (supplied ms m.index).length ≠ 1) ∧
    ∀ p, DistinctKeys (supplied ms p) := by
  obtain ⟨_, _, _, ⟨h1, h2, h3⟩ | ⟨hall, _⟩⟩ := build_ok ms pr hb
  · exact ⟨h2, h1, h3⟩
  · obtain ⟨m, hm, hs⟩ := ht
    rw [hall m hm] at hs; cases hs

theorem indicesAreRange_iff (l : List MatrixData) (k : Nat) :
    indicesAreRange k l = true ↔ ∀ i m, l[i]? = some m → m.index = k + i := by
  induction l generalizing k with
  | nil => exact ⟨fun _ i m h => by simp at h, fun _ => rfl⟩
  | cons x l ih =>
    unfold indicesAreRange
    rw [Bool.and_eq_true, beq_iff_eq, ih (k + 1)]
    constructor
    · rintro ⟨hx, h⟩ i m hm
      cases i with
      | zero => cases hm; exact hx
      | succ j => have := h j m hm; omega
    · intro h
      exact ⟨h 0 x rfl, fun i m hm => by have := h (i + 1) m hm; omega⟩

theorem sortByIndex_perm (ms : List MatrixData) : (sortByIndex ms).Perm ms := List.mergeSort_perm _ _

theorem sortByIndex_sorted (ms : List MatrixData) : (sortByIndex ms).Pairwise (fun a b => a.index ≤ b.index) :=
  mergeSort_key_sorted MatrixData.index ms

theorem sortByIndex_of_sorted (ms : List MatrixData) (h : ms.Pairwise (fun a b => a.index ≤ b.index)) :
    sortByIndex ms = ms :=
  List.mergeSort_of_pairwise (h.imp (fun hab => decide_eq_true hab))

theorem agnostic_position (ms : List MatrixData) (h : indicesAreRange 0 (sortByIndex ms) = true)
    (m : MatrixData) (hm : m ∈ ms) : (sortByIndex ms)[m.index]? = some m := by
  have hmS : m ∈ sortByIndex ms := (sortByIndex_perm ms).mem_iff.mpr hm
  obtain ⟨i, hi, hget⟩ := List.getElem_of_mem hmS
  have hget' : (sortByIndex ms)[i]? = some m := by rw [List.getElem?_eq_getElem hi, hget]
  have := (indicesAreRange_iff _ 0).mp h i m hget'
  rw [this, Nat.zero_add]
  exact hget'

theorem agnostic_unique (ms : List MatrixData) (h : indicesAreRange 0 (sortByIndex ms) = true)
    (a b : MatrixData) (ha : a ∈ ms) (hb : b ∈ ms) (hi : a.index = b.index) : a = b := by
  have h1 := agnostic_position ms h a ha
  have h2 := agnostic_position ms h b hb
  rw [hi, h2] at h1
  exact (Option.some.inj h1).symm

theorem indicesAreRange_ge (l : List MatrixData) (k : Nat) (h : indicesAreRange k l = true) :
    ∀ m ∈ l, k ≤ m.index := fun m hm => by
  obtain ⟨i, hi, hget⟩ := List.getElem_of_mem hm
  have := (indicesAreRange_iff l k).mp h i m (by rw [List.getElem?_eq_getElem hi, hget])
  omega

theorem indicesAreRange_filter_le_one (l : List MatrixData) (k : Nat) (h : indicesAreRange k l = true) (i : Nat) :
    (l.filter (fun m => m.index == i)).length ≤ 1 := by
  induction l generalizing k with
  | nil => exact Nat.zero_le _
  | cons x l ih =>
    unfold indicesAreRange at h
    rw [Bool.and_eq_true, beq_iff_eq] at h
    rw [List.filter_cons]
    split
    · rename_i hi
      rw [List.filter_eq_nil_iff.mpr fun m hm => by
        have := indicesAreRange_ge l (k + 1) h.2 m hm
        rw [beq_iff_eq] at hi ⊢; omega]
      exact Nat.le_refl _
    · exact ih (k + 1) h.2

theorem agnostic_supplied_le_one (ms : List MatrixData) (h : indicesAreRange 0 (sortByIndex ms) = true) (p : Nat) :
    (supplied ms p).length ≤ 1 :=
  Nat.le_trans (Nat.le_of_eq ((sortByIndex_perm ms).filter _).symm.length_eq) (indicesAreRange_filter_le_one _ 0 h p)

theorem agnostic_supplied (ms : List MatrixData) (h : indicesAreRange 0 (sortByIndex ms) = true)
    (m : MatrixData) (hm : m ∈ ms) : supplied ms m.index = [m] := by
  have hmem : m ∈ supplied ms m.index := List.mem_filter.mpr ⟨hm, beq_self_eq_true _⟩
  obtain ⟨x, hx⟩ := List.length_eq_one_iff.mp
    (Nat.le_antisymm (agnostic_supplied_le_one ms h m.index) (List.length_pos_of_mem hmem))
  rw [hx] at hmem ⊢
  rw [List.mem_singleton.mp hmem]

theorem agnostic_covers (ms : List MatrixData) (h : indicesAreRange 0 (sortByIndex ms) = true) (p : Nat)
    (hp : p < ms.length) : supplied ms p ≠ [] := by
  have hlt : p < (sortByIndex ms).length := by rw [(sortByIndex_perm ms).length_eq]; exact hp
  have hidx := (indicesAreRange_iff _ 0).mp h p _ (List.getElem?_eq_getElem hlt)
  exact List.ne_nil_of_mem (List.mem_filter.mpr
    ⟨(sortByIndex_perm ms).mem_iff.mp (List.getElem_mem hlt), by rw [hidx, Nat.zero_add]; exact beq_self_eq_true _⟩)

theorem builder_rejects_empty : build [] = .error .empty := rfl

theorem builder_rejects_mixed_timestamps (ms : List MatrixData) (a b : MatrixData) (ha : a ∈ ms) (hb : b ∈ ms)
    (hat : a.timestamp.isSome = true) (hbt : b.timestamp = none) : ∀ pr, build ms ≠ .ok pr := by
  intro pr h
  have := (build_timed ms pr h ⟨a, ha, hat⟩).2.1 b hb
  rw [hbt] at this; cases this

theorem filter_timestamp_singleton (g : List MatrixData) (hd : DistinctKeys g) (m : MatrixData) (hm : m ∈ g) :
    (g.filter (fun x => x.timestamp == m.timestamp)).length = 1 := by
  induction g with
  | nil => cases hm
  | cons x g ih =>
    obtain ⟨hhead, hd'⟩ := List.pairwise_cons.mp hd
    have hkey : ∀ {a b : MatrixData}, (a.timestamp == b.timestamp) = true → a.key = b.key := fun h =>
      congrArg (fun ts : Option Int => keyOfInt (ts.getD 0)) (eq_of_beq h)
    rw [List.filter_cons]
    by_cases hx : (x.timestamp == m.timestamp) = true
    · rw [if_pos hx, List.filter_eq_nil_iff.mpr fun y hy hyt => hhead y hy ((hkey hx).trans (hkey hyt).symm)]
      rfl
    · rw [if_neg hx]
      rcases List.mem_cons.mp hm with e | e
      · rw [e] at hx; exact absurd (beq_self_eq_true _) hx
      · exact ih hd' e

theorem builder_rejects_duplicate_timestamp (ms : List MatrixData) (a : MatrixData) (ha : a ∈ ms)
    (hat : a.timestamp.isSome = true)
    (hdup : ((supplied ms a.index).filter (fun x => x.timestamp == a.timestamp)).length ≠ 1) :
    ∀ pr, build ms ≠ .ok pr := fun pr h =>
  hdup (filter_timestamp_singleton _ ((build_timed ms pr h ⟨a, ha, hat⟩).2.2.2 a.index) a
    (List.mem_filter.mpr ⟨ha, beq_self_eq_true _⟩))

end C16
