import VrpProofs.C16.Aware
/-!
# C16 — the specification's two folds as one keep-the-best step; model = specification for one group
-/

namespace C16

/-- the step of the specification's folds: among the elements satisfying `ok` keep the one `pref` likes best -/
def keepBest {α : Type} (ok : α → Prop) [DecidablePred ok] (pref : α → α → Prop) [DecidableRel pref]
    (best : Option α) (m : α) : Option α :=
  if ok m then
    match best with
    | none => some m
    | some b => if pref b m then some m else some b
  else best

theorem foldl_keepBest {α : Type} (ok : α → Prop) [DecidablePred ok] (pref : α → α → Prop) [DecidableRel pref]
    (μ : α → Int) (hpref : ∀ b m, pref b m ↔ μ b < μ m) (g : List α) :
    match g.foldl (keepBest ok pref) none with
    | some z => z ∈ g ∧ ok z ∧ ∀ x ∈ g, ok x → μ x ≤ μ z
    | none => ∀ x ∈ g, ¬ ok x := by
  -- induction on the reversed list exposes the last step of the fold: `foldl f none (g ++ [m]) = f (foldl f none g) m`;
  -- the statement itself is the invariant
  obtain ⟨r, rfl⟩ : ∃ r, g = r.reverse := ⟨g.reverse, (List.reverse_reverse g).symm⟩
  induction r with
  | nil => exact fun _ hx => nomatch hx
  | cons m r ih =>
    rw [List.reverse_cons, List.foldl_append, List.foldl_cons, List.foldl_nil]
    generalize r.reverse = g at ih ⊢
    generalize g.foldl (keepBest ok pref) none = best at ih ⊢
    -- a statement about all of `g ++ [m]` is one about `g` and one about `m`
    simp only [List.mem_append, List.mem_singleton, or_imp, forall_and, forall_eq]
    rw [keepBest.eq_def]
    by_cases hm : ok m
    · rw [if_pos hm]
      cases best with
      | none => exact ⟨Or.inr rfl, hm, fun x hx hxo => absurd hxo (ih x hx), fun _ => le_refl _⟩
      | some b =>
        obtain ⟨hbg, hbo, hbmax⟩ := ih
        dsimp only
        by_cases hq : pref b m
        · rw [if_pos hq]
          have := (hpref b m).mp hq
          exact ⟨Or.inr rfl, hm, fun x hx hxo => by have := hbmax x hx hxo; omega, fun _ => le_refl _⟩
        · rw [if_neg hq]
          exact ⟨Or.inl hbg, hbo, hbmax, fun _ => not_lt.mp ((hpref b m).not.mp hq)⟩
    · rw [if_neg hm]
      cases best with
      | none => exact ⟨ih, hm⟩
      | some z => exact ⟨Or.inl ih.1, ih.2.1, ih.2.2, fun h => absurd h hm⟩

theorem stepLeft_eq (k : Nat) : stepLeft k = keepBest (fun m => m.key < k) (fun b m => b.key < m.key) := by
  funext best m; cases best <;> rfl

theorem stepRight_eq (k : Nat) : stepRight k = keepBest (fun m => k < m.key) (fun b m => m.key < b.key) := by
  funext best m; cases best <;> rfl

theorem specLeft_spec (g : List MatrixData) (k : Nat) :
    match specLeft g k with
    | some l => l ∈ g ∧ l.key < k ∧ ∀ x ∈ g, x.key < k → x.key ≤ l.key
    | none => ∀ x ∈ g, ¬ x.key < k := by
  have := foldl_keepBest (fun m : MatrixData => m.key < k) (fun b m => b.key < m.key) (fun m => (m.key : Int))
    (fun b m => by omega) g
  rw [specLeft, stepLeft_eq]
  generalize g.foldl _ none = best at this ⊢
  cases best <;> simpa only [Int.ofNat_le] using this

/-- `stepRight` prefers the smaller key: the measure is the negated key -/
theorem specRight_spec (g : List MatrixData) (k : Nat) :
    match specRight g k with
    | some r => r ∈ g ∧ k < r.key ∧ ∀ x ∈ g, k < x.key → r.key ≤ x.key
    | none => ∀ x ∈ g, ¬ k < x.key := by
  have := foldl_keepBest (fun m : MatrixData => k < m.key) (fun b m => m.key < b.key) (fun m => -(m.key : Int))
    (fun b m => by omega) g
  rw [specRight, stepRight_eq]
  generalize g.foldl _ none = best at this ⊢
  cases best <;> simpa only [neg_le_neg_iff, Int.ofNat_le] using this

theorem specAt_spec (g : List MatrixData) (k : Nat) :
    match specAt g k with
    | some m => m ∈ g ∧ m.key = k
    | none => ∀ x ∈ g, x.key ≠ k := by
  unfold specAt
  cases h : g.find? (fun m => m.key == k) with
  | some m => exact ⟨List.mem_of_find?_eq_some h, by simpa using List.find?_some h⟩
  | none => exact fun x hx => by simpa using List.find?_eq_none.mp h x hx

theorem durAt_eq_entry (m : MatrixData) (n frm dst : Nat) :
    durAt m (flatIdx n frm dst) = (entryDur m n frm dst).map (fun v => (v : Rat)) := rfl

theorem distAt_eq_entry (m : MatrixData) (n frm dst : Nat) :
    distAt m (flatIdx n frm dst) = (entryDist m n frm dst).map (fun v => (v : Rat)) := rfl

/-- a pair inside an `n × n` matrix has an entry in both collections: as the specification reads it, and as the provider does -/
theorem entries_exist (m : MatrixData) (n : Nat) (h1 : m.durations.length = n * n) (h2 : m.distances.length = n * n)
    (frm dst : Nat) (hf : frm < n) (hd : dst < n) :
    ∃ du di, entryDur m n frm dst = some du ∧ entryDist m n frm dst = some di ∧
      durAt m (flatIdx n frm dst) = some (du : Rat) ∧ distAt m (flatIdx n frm dst) = some (di : Rat) := by
  obtain ⟨du, (hdu : entryDur m n frm dst = some du)⟩ := entry_exists m.durations n frm dst h1 hf hd
  obtain ⟨di, (hdi : entryDist m n frm dst = some di)⟩ := entry_exists m.distances n frm dst h2 hf hd
  exact ⟨du, di, hdu, hdi, by rw [durAt_eq_entry, hdu]; rfl, by rw [distAt_eq_entry, hdi]; rfl⟩

/-- sorting by the truncated timestamp followed by the bracket search computes the order-free selection of the
    specification; the selection is defined when the entry exists in every matrix of the group -/
theorem interp_eq_spec (g : List MatrixData) (hd : DistinctKeys g) (hne : g ≠ []) (n frm dst : Nat) (t : Rat) :
    interpDurationRaw (sortByKey g) (flatIdx n frm dst) t = specAwareDur g n frm dst t ∧
    interpDistanceRaw (sortByKey g) (flatIdx n frm dst) t = specAwareDist g n frm dst t ∧
    ((∀ m ∈ g, ∃ du di, entryDur m n frm dst = some du ∧ entryDist m n frm dst = some di) →
      (∃ v, interpDurationRaw (sortByKey g) (flatIdx n frm dst) t = some v) ∧
      (∃ v, interpDistanceRaw (sortByKey g) (flatIdx n frm dst) t = some v)) := by
  have one : ∀ m, (∃ du di, entryDur m n frm dst = some du ∧ entryDist m n frm dst = some di) →
      (∃ v, (entryDur m n frm dst).map (fun v => (v : Rat)) = some v) ∧
      (∃ v, (entryDist m n frm dst).map (fun v => (v : Rat)) = some v) := fun m ⟨du, di, e1, e2⟩ => by
    rw [e1, e2]
    exact ⟨⟨_, rfl⟩, ⟨_, rfl⟩⟩
  have hA := specAt_spec g (keyOfRat t)
  have hL := specLeft_spec g (keyOfRat t)
  have hR := specRight_spec g (keyOfRat t)
  unfold specAwareDur specAwareDist
  simp only
  generalize specAt g (keyOfRat t) = A at hA ⊢
  generalize specLeft g (keyOfRat t) = L at hL ⊢
  generalize specRight g (keyOfRat t) = R at hR ⊢
  match A, L, R, hA, hL, hR with
  | some m, _, _, ⟨hm, hk⟩, _, _ =>
    obtain ⟨h1, h2⟩ := select_exact g hd t m hm hk (flatIdx n frm dst)
    rw [h1, h2]
    exact ⟨rfl, rfl, fun hent => one m (hent m hm)⟩
  | none, none, none, hA, hL, hR =>
    obtain ⟨x, hx⟩ := List.exists_mem_of_ne_nil _ hne
    have := hA x hx; have := hL x hx; have := hR x hx
    omega
  | none, none, some r, hA, hL, ⟨hrm, _, hrmin⟩ =>
    obtain ⟨h1, h2⟩ := select_first g hd t r hrm
      (fun x hx => by have := hA x hx; have := hL x hx; have := hrmin x hx; omega) (flatIdx n frm dst)
    rw [h1, h2]
    exact ⟨rfl, rfl, fun hent => one r (hent r hrm)⟩
  | none, some l, none, hA, ⟨hlm, _, hlmax⟩, hR =>
    obtain ⟨h1, h2⟩ := select_last g hd t l hlm
      (fun x hx => by have := hA x hx; have := hR x hx; have := hlmax x hx; omega) (flatIdx n frm dst)
    rw [h1, h2]
    exact ⟨rfl, rfl, fun hent => one l (hent l hlm)⟩
  | none, some l, some r, hA, ⟨hlm, hlk, hlmax⟩, ⟨hrm, hrk, hrmin⟩ =>
    obtain ⟨h1, h2⟩ := select_between g hd t l r hlm hrm hlk hrk
      (fun x hx => by have := hA x hx; have := hlmax x hx; have := hrmin x hx; omega) (flatIdx n frm dst)
    refine ⟨?_, h2, fun hent => ?_⟩
    · rw [h1, durAt_eq_entry, durAt_eq_entry]
      simp only
      cases entryDur l n frm dst <;> cases entryDur r n frm dst <;> rfl
    · obtain ⟨lu, li, e1, e2⟩ := hent l hlm
      obtain ⟨ru, _, e3, _⟩ := hent r hrm
      rw [h1, h2, durAt_eq_entry, durAt_eq_entry, distAt_eq_entry, e1, e2, e3]
      exact ⟨⟨_, rfl⟩, ⟨_, rfl⟩⟩

theorem specGroup_timed (g : List MatrixData) (hlen : g.length ≠ 1)
    (hall : g.all (fun m => m.timestamp.isSome) = true) (n : Nat) (scale : Rat) (frm dst : Nat) (t : Rat) :
    specGroupDuration g n scale frm dst t = (specAwareDur g n frm dst t).map (· * scale) ∧
    specGroupDistance g n frm dst t = specAwareDist g n frm dst t := by
  match g, hlen with
  | [], _ => exact ⟨rfl, rfl⟩
  | [_], h => exact absurd rfl h
  | a :: b :: rest, _ =>
    unfold specGroupDuration specGroupDistance
    simp only [hall, if_true, and_self]

end C16
