import VrpProofs.C16.Basic
/-!
# C16 — a query against either provider, unfolded
-/

namespace C16

theorem orFallback_some (x : Rat) (fb : Option Int) : orFallback (some x) fb = some x := rfl

theorem aware_unfold (size : Nat) (ms : List MatrixData) (fb : Fallback) (p : Profile) (frm dst : Nat) (t : Rat)
    (hg : groupOf ms p.index ≠ []) :
    (Provider.aware size ms).duration fb p frm dst t =
      (orFallback (interpDurationRaw (sortByKey (groupOf ms p.index)) (flatIdx size frm dst) t)
        (fb.map (·.1))).map (· * p.scale) ∧
    (Provider.aware size ms).distance fb p frm dst t =
      orFallback (interpDistanceRaw (sortByKey (groupOf ms p.index)) (flatIdx size frm dst) t) (fb.map (·.2)) := by
  rw [Provider.duration, Provider.distance]
  cases hgr : groupOf ms p.index with
  | nil => exact absurd hgr hg
  | cons x g => exact ⟨rfl, rfl⟩

theorem agnostic_unfold (size : Nat) (mats : List MatrixData) (fb : Fallback) (p : Profile) (frm dst : Nat) (t : Rat)
    (m : MatrixData) (hm : mats[p.index]? = some m) :
    (Provider.agnostic size mats).duration fb p frm dst t =
      (orFallback (durAt m (flatIdx size frm dst)) (fb.map (·.1))).map (· * p.scale) ∧
    (Provider.agnostic size mats).distance fb p frm dst t =
      orFallback (distAt m (flatIdx size frm dst)) (fb.map (·.2)) := by
  rw [Provider.duration, Provider.distance]
  rw [hm]
  exact ⟨rfl, rfl⟩

end C16
