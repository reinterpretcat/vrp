import VrpProofs.C16.Builder
/-!
# C16 — the pragmatic reader: profile names → indices, error codes → −1
-/

namespace C16

/-- every key of the map sits at the position it is mapped to -/
def MapInv (acc : List (String × Nat)) : Prop := ∀ a i, acc.lookup a = some i → acc[i]? = some (a, i)

theorem lookup_append_singleton (acc : List (String × Nat)) (n a : String) (v : Nat) :
    (acc ++ [(n, v)]).lookup a = (acc.lookup a).or (if a == n then some v else none) := by
  rw [List.lookup_append, List.lookup_cons, List.lookup_nil]
  cases a == n <;> rfl

theorem mapInv_append (acc : List (String × Nat)) (n : String) (hinv : MapInv acc) :
    MapInv (acc ++ [(n, acc.length)]) := by
  intro a i h
  rw [lookup_append_singleton] at h
  cases ha : acc.lookup a with
  | some j =>
    have := hinv a j ha
    rw [ha] at h
    cases h
    rw [List.getElem?_append_left (List.getElem?_eq_some_iff.mp this).1]
    exact this
  | none =>
    rw [ha, Option.none_or] at h
    split at h
    · rename_i hb
      cases h
      rw [List.getElem?_append_right (Nat.le_refl _), Nat.sub_self, eq_of_beq hb]
      rfl
    · cases h

theorem profileIndexMap_inv (profiles : List String) (acc : List (String × Nat)) (hinv : MapInv acc) :
    MapInv (profileIndexMap profiles acc) := by
  induction profiles generalizing acc with
  | nil => exact hinv
  | cons n rest ih =>
    unfold profileIndexMap
    split
    · exact ih acc hinv
    · exact ih _ (mapInv_append acc n hinv)

theorem profileIndexMap_isSome (profiles : List String) (acc : List (String × Nat)) (a : String) :
    ((profileIndexMap profiles acc).lookup a).isSome = true ↔ a ∈ profiles ∨ (acc.lookup a).isSome = true := by
  induction profiles generalizing acc with
  | nil => simp [profileIndexMap]
  | cons n rest ih =>
    unfold profileIndexMap
    split
    · -- `n` is in `acc` already: nothing is appended, and `a = n` is covered by `acc`
      rename_i hn
      rw [ih, List.mem_cons, or_assoc]
      exact (or_iff_right_of_imp fun e => Or.inr (e ▸ hn)).symm
    · -- `n` is appended: `a` is found in the extended map iff it is found in `acc` or is `n`
      have hn : (if (a == n) = true then some acc.length else none).isSome = true ↔ a = n := by
        by_cases e : a = n <;> simp [e]
      rw [ih, lookup_append_singleton, Option.isSome_or, Bool.or_eq_true, hn, List.mem_cons,
        or_comm (b := a = n), ← or_assoc, or_comm (b := a = n)]

theorem profileIndex_inj (profiles : List String) (a b : String) (i : Nat)
    (ha : profileIndex profiles a = some i) (hb : profileIndex profiles b = some i) : a = b := by
  have hinv := profileIndexMap_inv profiles [] (fun a i h => nomatch h)
  have h := (hinv a i ha).symm.trans (hinv b i hb)
  cases h; rfl

theorem profileIndex_isSome (profiles : List String) (a : String) :
    (profileIndex profiles a).isSome = true ↔ a ∈ profiles := by
  unfold profileIndex
  rw [profileIndexMap_isSome, List.lookup_nil, Option.isSome_none, or_iff_left Bool.false_ne_true]

theorem errorCodes_map_cons (xs : List Int) (k : Nat) (e : Int) (rest : List Int) :
    (List.range (e :: rest).length).map (fun j => if (e :: rest).getD j 0 > 0 then -1 else xs.getD (k + j) 0) =
    (if e > 0 then -1 else xs.getD k 0) ::
      (List.range rest.length).map (fun j => if rest.getD j 0 > 0 then -1 else xs.getD (k + 1 + j) 0) := by
  rw [List.length_cons, List.range_succ_eq_map, List.map_cons, List.map_map]
  refine congrArg₂ _ rfl (List.map_congr_left fun j _ => ?_)
  simp only [Function.comp, List.getD_cons_succ, Nat.add_assoc, Nat.add_comm 1 j]

theorem applyErrorCodes_spec (tt dist : List Int) (k : Nat) (codes : List Int) (a b : List Int)
    (h : applyErrorCodes tt dist k codes = some (a, b)) :
    a = (List.range codes.length).map (fun j => if codes.getD j 0 > 0 then -1 else tt.getD (k + j) 0) ∧
    b = (List.range codes.length).map (fun j => if codes.getD j 0 > 0 then -1 else dist.getD (k + j) 0) := by
  induction codes generalizing k a b with
  | nil => cases h; exact ⟨rfl, rfl⟩
  | cons e rest ih =>
    rw [errorCodes_map_cons, errorCodes_map_cons]
    unfold applyErrorCodes at h
    split at h
    · rename_i he
      obtain ⟨⟨a', b'⟩, hr, hab⟩ := Option.map_eq_some_iff.mp h
      obtain ⟨h1, h2⟩ := ih (k + 1) a' b' hr
      cases hab
      rw [if_pos he, if_pos he, ← h1, ← h2]
      exact ⟨rfl, rfl⟩
    · rename_i he
      split at h
      · rename_i x y hx hy
        obtain ⟨⟨a', b'⟩, hr, hab⟩ := Option.map_eq_some_iff.mp h
        obtain ⟨h1, h2⟩ := ih (k + 1) a' b' hr
        cases hab
        rw [if_neg he, if_neg he, ← h1, ← h2, List.getD_eq_getElem?_getD, List.getD_eq_getElem?_getD, hx, hy]
        exact ⟨rfl, rfl⟩
      · cases h

theorem toMatrixData_spec (profiles : List String) (idx : Nat) (m : ApiMatrix) (d : MatrixData)
    (h : toMatrixData profiles idx m = some d) :
    d = asSupplied ((m.profile.bind (profileIndex profiles)).getD idx) m := by
  unfold toMatrixData at h
  unfold asSupplied unreachableApplied
  split at h
  · rename_i codes hc
    obtain ⟨⟨a, b⟩, hr, hab⟩ := Option.map_eq_some_iff.mp h
    cases hab
    obtain ⟨h1, h2⟩ := applyErrorCodes_spec _ _ 0 codes a b hr
    simp only [Nat.zero_add] at h1 h2
    simp only [hc, h1, h2]
  · rename_i hc
    cases h
    simp only [hc]

theorem asSupplied_getElem? (idx : Nat) (m : ApiMatrix) (codes : List Int) (hc : m.errorCodes = some codes)
    (i : Nat) (hi : i < codes.length) :
    (asSupplied idx m).durations[i]? = some (if codes.getD i 0 > 0 then -1 else m.travelTimes.getD i 0) ∧
    (asSupplied idx m).distances[i]? = some (if codes.getD i 0 > 0 then -1 else m.distances.getD i 0) := by
  unfold asSupplied unreachableApplied
  simp only [hc]
  rw [List.getElem?_map, List.getElem?_map, List.getElem?_range hi]
  exact ⟨rfl, rfl⟩

theorem supplied_cons (d : MatrixData) (ds : List MatrixData) (i : Nat) :
    supplied (d :: ds) i = if d.index = i then d :: supplied ds i else supplied ds i := by
  unfold supplied
  rw [List.filter_cons]
  simp only [beq_iff_eq]

theorem toMatrixDataAll_cons (profiles : List String) (k : Nat) (m : ApiMatrix) (rest : List ApiMatrix)
    (data : List MatrixData) (h : toMatrixDataAll profiles k (m :: rest) = some data) :
    ∃ d ds, toMatrixData profiles k m = some d ∧ toMatrixDataAll profiles (k + 1) rest = some ds ∧ data = d :: ds := by
  unfold toMatrixDataAll at h
  split at h
  · rename_i d ds hd hds
    cases h
    exact ⟨d, ds, hd, hds, rfl⟩
  · cases h

theorem supplied_named (profiles : List String) (name : String) (i : Nat) (hi : profileIndex profiles name = some i)
    (ms : List ApiMatrix) (k : Nat) (data : List MatrixData) (h : toMatrixDataAll profiles k ms = some data)
    (hknown : ∀ m ∈ ms, ∃ nm, m.profile = some nm ∧ nm ∈ profiles) :
    supplied data i = (ms.filter (fun m => m.profile == some name)).map (asSupplied i) := by
  induction ms generalizing k data with
  | nil => cases h; rfl
  | cons m rest ih =>
    obtain ⟨d, ds, hd, hds, rfl⟩ := toMatrixDataAll_cons profiles k m rest data h
    obtain ⟨nm, hnm, hmem⟩ := hknown m List.mem_cons_self
    obtain ⟨j, hj⟩ := Option.isSome_iff_exists.mp ((profileIndex_isSome profiles nm).mpr hmem)
    have hdspec := toMatrixData_spec profiles k m d hd
    rw [hnm, Option.bind_some, hj, Option.getD_some] at hdspec
    have hdi : d.index = j := by rw [hdspec]; rfl
    rw [supplied_cons, List.filter_cons, ih (k + 1) ds hds fun x hx => hknown x (List.mem_cons_of_mem _ hx), hdi, hnm]
    by_cases hji : j = i
    · rw [if_pos hji, if_pos (by rw [profileIndex_inj profiles nm name i (hji ▸ hj) hi]; exact beq_self_eq_true _),
        List.map_cons, hdspec, hji]
    · have hnn : nm ≠ name := fun e => hji (Option.some.inj (hj.symm.trans (e ▸ hi)))
      rw [if_neg hji, if_neg fun e => hnn (Option.some.inj (eq_of_beq e))]

theorem supplied_unnamed (profiles : List String) (ms : List ApiMatrix) (k : Nat) (data : List MatrixData)
    (h : toMatrixDataAll profiles k ms = some data) (hnone : ∀ m ∈ ms, m.profile = none) :
    (∀ j, supplied data (k + j) = (ms[j]?).toList.map (asSupplied (k + j))) ∧ ∀ i, i < k → supplied data i = [] := by
  induction ms generalizing k data with
  | nil => cases h; exact ⟨fun _ => rfl, fun _ _ => rfl⟩
  | cons m rest ih =>
    obtain ⟨d, ds, hd, hds, rfl⟩ := toMatrixDataAll_cons profiles k m rest data h
    have hdspec := toMatrixData_spec profiles k m d hd
    rw [hnone m List.mem_cons_self] at hdspec
    obtain ⟨ih1, ih2⟩ := ih (k + 1) ds hds fun x hx => hnone x (List.mem_cons_of_mem _ hx)
    have hdi : d.index = k := by rw [hdspec]; rfl
    refine ⟨fun j => ?_, fun i hi => ?_⟩
    · rw [supplied_cons, hdi]
      cases j with
      | zero => rw [Nat.add_zero, if_pos rfl, ih2 k (Nat.lt_succ_self k), hdspec]; rfl
      | succ j => rw [if_neg (by omega), ← Nat.add_assoc, Nat.add_right_comm, ih1 j]; rfl
    · rw [supplied_cons, hdi, if_neg (by omega), ih2 i (Nat.lt_succ_of_lt hi)]

theorem toMatrixDataAllE_ok (profiles : List String) (ms : List ApiMatrix) (k : Nat) (data : List MatrixData)
    (h : toMatrixDataAllE profiles k ms = .ok data) :
    toMatrixDataAll profiles k ms = some data ∧
    ∀ m ∈ ms, ∀ codes, m.errorCodes = some codes → codes.length = m.distances.length := by
  induction ms generalizing k data with
  | nil => cases h; exact ⟨rfl, fun _ hx => nomatch hx⟩
  | cons m rest ih =>
    unfold toMatrixDataAllE at h
    split at h
    · cases h
    · rename_i d hm
      split at h
      · cases h
      · rename_i ds hr
        cases h
        obtain ⟨ih1, ih2⟩ := ih (k + 1) ds hr
        obtain ⟨hlen, hm⟩ := ite_error_eq_ok.mp hm
        split at hm
        · rename_i d' hd
          cases hm
          refine ⟨by unfold toMatrixDataAll; rw [hd, ih1], fun x hx codes hc => ?_⟩
          rcases List.mem_cons.mp hx with e | e
          · subst e
            unfold codesLengthBad at hlen
            rw [hc] at hlen
            simpa using hlen
          · exact ih2 x e codes hc
        · cases hm

/-- what `create_transport_costs` accepts, in each of the three variants -/
theorem createTransportCosts_ok (mode : ReaderMode) (profiles : List String) (ms : List ApiMatrix) (pr : Provider)
    (h : createTransportCosts mode profiles ms = .ok pr) :
    (ms.all (fun m => m.profile.isSome) = true ∨ ms.all (fun m => m.profile.isNone) = true) ∧
    (mode = .strict → namesKnown profiles ms = true) ∧
    (mode = .noMix → knownCount profiles ms = 0 ∨ knownCount profiles ms = ms.length) ∧
    ∃ data, toMatrixDataAll profiles 0 ms = some data ∧ build data = .ok pr := by
  obtain ⟨hnames, h⟩ := ite_error_eq_ok.mp h
  obtain ⟨_, h⟩ := ite_error_eq_ok.mp h
  obtain ⟨hstrict, h⟩ := ite_error_eq_ok.mp h
  obtain ⟨_, h⟩ := ite_error_eq_ok.mp h
  split at h
  · cases h
  · rename_i data hdata
    obtain ⟨_, h⟩ := ite_error_eq_ok.mp h
    obtain ⟨hmix, h⟩ := ite_error_eq_ok.mp h
    split at h
    · cases h
    · rename_i p hb
      cases h
      refine ⟨?_, ?_, ?_, data, (toMatrixDataAllE_ok profiles ms 0 data hdata).1, hb⟩
      · revert hnames
        cases ms.all (fun m => m.profile.isSome) <;> cases ms.all (fun m => m.profile.isNone) <;> decide
      · intro hm; subst hm
        revert hstrict
        cases namesKnown profiles ms <;> decide
      · intro hm; subst hm
        by_contra hc
        rw [not_or] at hc
        exact hmix (by rw [Bool.and_eq_true, Bool.and_eq_true, bne_iff_ne, bne_iff_ne]; exact ⟨⟨rfl, hc.1⟩, hc.2⟩)

theorem createTransportCosts_accepts (mode : ReaderMode) (profiles : List String) (ms : List ApiMatrix)
    (data : List MatrixData) (pr : Provider)
    (h1 : ¬ (!ms.all (fun m => m.profile.isSome) && !ms.all (fun m => m.profile.isNone)) = true)
    (h2 : ¬ (ms.any (fun m => m.profile.isNone) && ms.any (fun m => m.timestamp.isSome)) = true)
    (h3 : ¬ (mode == .strict && !namesKnown profiles ms) = true)
    (h4 : ¬ (profileIndexMap profiles []).length > ms.length)
    (hdata : toMatrixDataAllE profiles 0 ms = .ok data)
    (h5 : ¬ ((profileIndexMap profiles []).length != distinctCount (data.map (·.index))) = true)
    (h6 : ¬ (mode == .noMix && knownCount profiles ms != 0 && knownCount profiles ms != ms.length) = true)
    (hb : build data = .ok pr) : createTransportCosts mode profiles ms = .ok pr := by
  unfold createTransportCosts
  rw [if_neg h1, if_neg h2, if_neg h3]
  simp only
  rw [if_neg h4, hdata]
  simp only
  rw [if_neg h5, if_neg h6, hb]

theorem supplied_eq_namedFor (profiles : List String) (ms : List ApiMatrix) (data : List MatrixData)
    (hall : ms.all (fun m => m.profile.isSome) = true ∨ ms.all (fun m => m.profile.isNone) = true)
    (hdata : toMatrixDataAll profiles 0 ms = some data) (hknown : namesKnown profiles ms = true)
    (name : String) (i : Nat) (hi : profileIndex profiles name = some i) :
    supplied data i = namedFor profiles ms name := by
  unfold namedFor
  simp only [hi, Option.getD_some]
  by_cases hnone : ms.all (fun m => m.profile.isNone) = true
  · rw [if_pos hnone]
    have := (supplied_unnamed profiles ms 0 data hdata fun m hm =>
      Option.isNone_iff_eq_none.mp (List.all_eq_true.mp hnone m hm)).1 i
    rwa [Nat.zero_add] at this
  · rw [if_neg hnone]
    have hsome : ms.all (fun m => m.profile.isSome) = true := by
      rcases hall with h | h
      · exact h
      · exact absurd h hnone
    have hk : ∀ m ∈ ms, ∃ nm, m.profile = some nm ∧ nm ∈ profiles := fun m hm => by
      obtain ⟨nm, hp⟩ := Option.isSome_iff_exists.mp (List.all_eq_true.mp hsome m hm)
      have h2 := List.all_eq_true.mp hknown m hm
      rw [hp] at h2
      exact ⟨nm, hp, by simpa using h2⟩
    exact supplied_named profiles name i hi ms 0 data hdata hk

end C16
