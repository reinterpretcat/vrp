import VrpModel.C09
/-!
# C09 — property theorems: comparisons obey order laws

Everything is stated for **all** 64-bit patterns (NaN payloads, ±0, ±∞, denormals) and lists of any
length. `f64` rounding of `+`/`-` is outside the model (stated over `Int`).

All four comparisons step through their vectors by `o.then rest`; where the head comparison is `compare` on `Int` the order
laws of one step are proved once. Reflexivity is read off antisymmetry: an ordering that equals its own swap is `.eq`.
-/
namespace C09

theorem then_swap (x y : Int) (r : Ordering) :
    ((compare x y).then r).swap = (compare y x).then r.swap := by
  rw [Ordering.swap_then, Int.compare_swap]

theorem then_ne_gt {x y : Int} {r : Ordering} :
    (compare x y).then r ≠ .gt ↔ x ≤ y ∧ (x = y → r ≠ .gt) := by
  rw [Ne, Ordering.then_eq_gt, Int.compare_eq_gt, Int.compare_eq_eq]
  constructor
  · intro h
    exact ⟨Int.not_lt.mp fun hlt => h (.inl hlt), fun e hr => h (.inr ⟨e, hr⟩)⟩
  · rintro ⟨hle, hr⟩ (hlt | ⟨e, hgt⟩)
    · exact Int.not_lt.mpr hle hlt
    · exact hr e hgt

theorem then_trans {x y z : Int} {r₁ r₂ r₃ : Ordering} (hr : r₁ ≠ .gt → r₂ ≠ .gt → r₃ ≠ .gt)
    (h₁ : (compare x y).then r₁ ≠ .gt) (h₂ : (compare y z).then r₂ ≠ .gt) :
    (compare x z).then r₃ ≠ .gt := by
  rw [then_ne_gt] at *
  refine ⟨Int.le_trans h₁.1 h₂.1, fun e => ?_⟩
  subst e
  have exy : x = y := Int.le_antisymm h₁.1 h₂.1
  exact hr (h₁.2 exy) (h₂.2 exy.symm)

theorem lexCmp_cons (a b : Int) (as bs : List Int) :
    lexCmp (a :: as) (b :: bs) = (compare a b).then (lexCmp as bs) := rfl

theorem icmpK_succ (n : Nat) (x y : List Int) :
    icmpK (n + 1) x y = (compare (hd x) (hd y)).then (icmpK n x.tail y.tail) := by
  rw [icmpK]; rfl

theorem singleGoalCmp_cons (a b : UInt64) (as bs : List UInt64) :
    singleGoalCmp (a :: as) (b :: bs) = (layerCmp a b).then (singleGoalCmp as bs) := by
  rw [singleGoalCmp]; rfl

theorem goalCmp_cons (l : LayerVals) (ls : List LayerVals) :
    goalCmp (l :: ls) = (layerOrder l).then (goalCmp ls) := rfl

theorem isZero_iff (a : UInt64) : isZero a = true ↔ key a = 0 ∨ key a = -1 := by
  simp only [isZero, key, Bool.or_eq_true, decide_eq_true_eq]
  lia

theorem key_injective (a b : UInt64) (h : key a = key b) : a = b := by
  apply UInt64.toNat_inj.mp
  unfold key at h
  lia

theorem compare_congr {a b c d : Int} (hlt : a < b ↔ c < d) (heq : a = b ↔ c = d) :
    compare a b = compare c d := by
  simp only [compare, compareOfLessAndEq, hlt, heq]

/-- **the single-layer comparator is `compare` on an integer key** (all 2^64 × 2^64 patterns) -/
theorem layerCmp_eq_key' (a b : UInt64) : layerCmp a b = compare (key' a) (key' b) := by
  simp only [layerCmp, totalCmp, key', Bool.and_eq_true, isZero_iff]
  -- moving `-1` onto `0` changes a comparison of two integers only between these two
  generalize key a = k, key b = l
  by_cases h : (k = 0 ∨ k = -1) ∧ (l = 0 ∨ l = -1)
  · rw [if_pos h, if_pos h.1, if_pos h.2]
    exact (Int.compare_eq_eq.mpr rfl).symm
  · rw [if_neg h]
    apply compare_congr <;> lia

theorem layerCmp_antisymm (a b : UInt64) : layerCmp b a = (layerCmp a b).swap := by
  rw [layerCmp_eq_key', layerCmp_eq_key', Int.compare_swap]

theorem layerCmp_refl (a : UInt64) : layerCmp a a = .eq :=
  Ordering.eq_eq_of_eq_swap (layerCmp_antisymm a a)

theorem layerCmp_trans (a b c : UInt64) (h1 : layerCmp a b ≠ .gt) (h2 : layerCmp b c ≠ .gt) :
    layerCmp a c ≠ .gt := by
  rw [layerCmp_eq_key', Int.compare_ne_gt] at *
  exact Int.le_trans h1 h2

theorem totalCmp_refl (a : UInt64) : totalCmp a a = .eq := Int.compare_eq_eq.mpr rfl

theorem totalCmp_antisymm (a b : UInt64) : totalCmp b a = (totalCmp a b).swap :=
  (Int.compare_swap _ _).symm

theorem count_map_swap (os : List Ordering) (o : Ordering) :
    (os.map .swap).count o = os.count o.swap := by
  induction os with
  | nil => rfl
  | cons p ps ih =>
    rw [List.map_cons, List.count_cons, List.count_cons, ih]
    cases p <;> cases o <;> rfl

theorem domOrder_map_swap (os : List Ordering) : domOrder (os.map .swap) = (domOrder os).swap := by
  simp only [domOrder, count_map_swap, Ordering.swap_lt, Ordering.swap_gt]
  cases os.count .lt <;> cases os.count .gt <;> rfl

theorem domOrder_antisymm (xs ys : List UInt64) :
    domOrder (List.zipWith totalCmp ys xs) = (domOrder (List.zipWith totalCmp xs ys)).swap := by
  rw [← domOrder_map_swap, List.map_zipWith, List.zipWith_comm]
  simp only [← totalCmp_antisymm]

theorem domOrder_self (xs : List UInt64) : domOrder (List.zipWith totalCmp xs xs) = .eq :=
  Ordering.eq_eq_of_eq_swap (domOrder_antisymm xs xs)

/-- dominance (multi-objective layers) is **not** transitive: `a ≤ b`, `b ≤ c` but `a > c`.
    This is why transitivity is claimed for single-layer goals only. -/
theorem dominance_not_transitive :
    ∃ a b c : List UInt64,
      domOrder (List.zipWith totalCmp a b) = .eq ∧
      domOrder (List.zipWith totalCmp b c) = .eq ∧
      domOrder (List.zipWith totalCmp a c) = .gt := by
  refine ⟨[2, 2], [0, 3], [1, 1], ?_, ?_, ?_⟩ <;> decide

/-- the same layer with the two solutions exchanged -/
def LayerVals.flip (l : LayerVals) : LayerVals := ⟨l.kind, l.fb, l.fa⟩
/-- the layer comparing solution a with itself -/
def LayerVals.diag (l : LayerVals) : LayerVals := ⟨l.kind, l.fa, l.fa⟩

theorem layerOrder_flip : ∀ l : LayerVals, layerOrder l.flip = (layerOrder l).swap
  | ⟨.single, [], []⟩ | ⟨.single, [], _ :: _⟩ | ⟨.single, _ :: _, []⟩ => rfl
  | ⟨.single, a :: _, b :: _⟩ => layerCmp_antisymm a b
  | ⟨.multi, fa, fb⟩ => domOrder_antisymm fa fb

/-- **C09 antisymmetry**: `cmp(b,a) = reverse(cmp(a,b))`, for any mix of layers. -/
theorem goal_antisymm (ls : List LayerVals) :
    goalCmp (ls.map LayerVals.flip) = (goalCmp ls).swap := by
  induction ls with
  | nil => rfl
  | cons l ls ih =>
    rw [List.map_cons, goalCmp_cons, goalCmp_cons, Ordering.swap_then, layerOrder_flip, ih]

/-- **C09 reflexivity**: comparing a solution with itself is `Equal`, for any mix of layers. -/
theorem goal_refl (ls : List LayerVals) : goalCmp (ls.map LayerVals.diag) = .eq := by
  refine Ordering.eq_eq_of_eq_swap ?_
  rw [← goal_antisymm, List.map_map]
  rfl

/-- **single-layer goals coincide with lexicographic comparison of the fitness vector with ±0
    identified** -/
theorem singleGoal_eq_lex (fa fb : List UInt64) :
    singleGoalCmp fa fb = lexCmp (fa.map key') (fb.map key') := by
  induction fa generalizing fb with
  | nil => rfl
  | cons a as ih =>
    cases fb with
    | nil => rfl
    | cons b bs =>
      rw [singleGoalCmp_cons, List.map_cons, List.map_cons, lexCmp_cons, layerCmp_eq_key', ih]

/-- the layered model and the vector model agree when every layer is single -/
theorem goalCmp_single (fa fb : List UInt64) (h : fa.length = fb.length) :
    goalCmp (List.zipWith (fun a b => ⟨.single, [a], [b]⟩) fa fb) = singleGoalCmp fa fb := by
  induction fa generalizing fb with
  | nil => rfl
  | cons a as ih =>
    cases fb with
    | nil => cases h
    | cons b bs =>
      rw [List.zipWith_cons_cons, goalCmp_cons, singleGoalCmp_cons, ih bs (Nat.succ.inj h)]; rfl

theorem lexCmp_swap (a b : List Int) : lexCmp b a = (lexCmp a b).swap := by
  induction a generalizing b with
  | nil => cases b <;> rfl
  | cons x xs ih =>
    cases b with
    | nil => rfl
    | cons y ys => rw [lexCmp_cons, lexCmp_cons, then_swap, ih]

theorem lexCmp_trans (a b c : List Int) (hab : a.length = b.length) (hbc : b.length = c.length)
    (h1 : lexCmp a b ≠ .gt) (h2 : lexCmp b c ≠ .gt) : lexCmp a c ≠ .gt := by
  induction a generalizing b c with
  | nil => exact nofun
  | cons x xs ih =>
    cases b with
    | nil => cases hab
    | cons y ys =>
      cases c with
      | nil => cases hbc
      | cons z zs => exact then_trans (ih ys zs (Nat.succ.inj hab) (Nat.succ.inj hbc)) h1 h2

/-- **C09 transitivity for single-layer goals** (fitness vectors of one goal have equal length) -/
theorem singleGoal_trans (fa fb fc : List UInt64)
    (hab : fa.length = fb.length) (hbc : fb.length = fc.length)
    (h1 : singleGoalCmp fa fb ≠ .gt) (h2 : singleGoalCmp fb fc ≠ .gt) :
    singleGoalCmp fa fc ≠ .gt := by
  rw [singleGoal_eq_lex] at *
  exact lexCmp_trans _ _ _ (by simpa using hab) (by simpa using hbc) h1 h2

/-- totality: two solutions are always comparable (`≤` one way or the other) -/
theorem singleGoal_total (fa fb : List UInt64) :
    singleGoalCmp fa fb ≠ .gt ∨ singleGoalCmp fb fa ≠ .gt := by
  rw [singleGoal_eq_lex fa fb, singleGoal_eq_lex fb fa, lexCmp_swap]
  by_cases h : lexCmp (fb.map key') (fa.map key') = .gt
  · rw [h]; exact .inl nofun
  · exact .inr h

/-- **single-layer goals: the code's comparison is the specification** -/
theorem singleGoal_eq_spec (fa fb : List UInt64) : singleGoalCmp fa fb = goalSpec fa fb :=
  singleGoal_eq_lex fa fb

theorem icmpK_antisymm (n : Nat) (x y : List Int) : icmpK n y x = (icmpK n x y).swap := by
  induction n generalizing x y with
  | zero => rfl
  | succ n ih => rw [icmpK_succ, icmpK_succ, then_swap, ih]

theorem icmpK_refl (n : Nat) (x : List Int) : icmpK n x x = .eq :=
  Ordering.eq_eq_of_eq_swap (icmpK_antisymm n x x)

theorem icmpK_trans (n : Nat) (x y z : List Int)
    (h1 : icmpK n x y ≠ .gt) (h2 : icmpK n y z ≠ .gt) : icmpK n x z ≠ .gt := by
  induction n generalizing x y z with
  | zero => exact nofun
  | succ n ih => exact then_trans (ih _ _ _) h1 h2

theorem tail_length_le {x : List Int} {n : Nat} (h : x.length ≤ n + 1) : x.tail.length ≤ n := by
  rw [List.length_tail]; exact Nat.sub_le_of_le_add h

/-- extra iterations beyond both lengths compare `0` with `0`: the fuel can be enlarged freely -/
theorem icmpK_fuel (n k : Nat) (x y : List Int) (hx : x.length ≤ n) (hy : y.length ≤ n) :
    icmpK (n + k) x y = icmpK n x y := by
  induction n generalizing x y with
  | zero =>
    rw [List.eq_nil_of_length_eq_zero (Nat.le_zero.mp hx),
      List.eq_nil_of_length_eq_zero (Nat.le_zero.mp hy)]
    exact icmpK_refl _ []
  | succ n ih =>
    rw [Nat.add_right_comm, icmpK_succ, icmpK_succ, ih _ _ (tail_length_le hx) (tail_length_le hy)]

theorem icmp_eq_icmpK (x y : List UInt64) (m : Nat) (hx : x.length ≤ m) (hy : y.length ≤ m) :
    icmp x y = icmpK m (x.map key) (y.map key) := by
  obtain ⟨k, rfl⟩ := Nat.exists_eq_add_of_le (Nat.max_le.mpr ⟨hx, hy⟩)
  unfold icmp
  rw [icmpK_fuel] <;> rw [List.length_map]
  · exact Nat.le_max_left _ _
  · exact Nat.le_max_right _ _

theorem icmp_refl (x : List UInt64) : icmp x x = .eq := icmpK_refl _ _

theorem icmp_antisymm (x y : List UInt64) : icmp y x = (icmp x y).swap := by
  unfold icmp; rw [Nat.max_comm]; exact icmpK_antisymm _ _ _

/-- **insertion-cost comparison is transitive for vectors of any (different) lengths** -/
theorem icmp_trans (x y z : List UInt64) (h1 : icmp x y ≠ .gt) (h2 : icmp y z ≠ .gt) :
    icmp x z ≠ .gt := by
  have hx := Nat.le_max_left x.length (max y.length z.length)
  have hy := Nat.le_trans (Nat.le_max_left y.length z.length) (Nat.le_max_right x.length _)
  have hz := Nat.le_trans (Nat.le_max_right y.length z.length) (Nat.le_max_right x.length _)
  rw [icmp_eq_icmpK _ _ _ hx hy] at h1
  rw [icmp_eq_icmpK _ _ _ hy hz] at h2
  rw [icmp_eq_icmpK _ _ _ hx hz]
  exact icmpK_trans _ _ _ _ h1 h2

theorem icmpK_append_zero (k : Nat) (xs ys : List Int) :
    icmpK k (xs ++ [0]) ys = icmpK k xs ys := by
  induction k generalizing xs ys with
  | zero => rfl
  | succ k ih =>
    cases xs with
    | nil => rfl
    | cons a as => rw [List.cons_append, icmpK_succ, icmpK_succ]; exact congrArg _ (ih as _)

/-- **a missing trailing component counts as zero**: appending `+0.0` changes nothing -/
theorem icmp_missing_is_zero (x y : List UInt64) : icmp (x ++ [0]) y = icmp x y := by
  have key0 : key 0 = 0 := by decide
  have hx : x.length ≤ (x ++ [0]).length := by
    rw [List.length_append]; exact Nat.le_add_right _ _
  rw [icmp_eq_icmpK x y _ (Nat.le_trans hx (Nat.le_max_left _ _)) (Nat.le_max_right _ _), icmp,
    List.map_append, List.map_cons, List.map_nil, key0]
  exact icmpK_append_zero _ _ _

theorem padSpec_succ (n : Nat) (x : List Int) :
    padSpec (n + 1) x = hd x :: padSpec n x.tail := by
  cases x with
  | nil => rfl
  | cons a as => simp only [padSpec, hd, List.length_cons, Nat.add_sub_add_right, List.cons_append,
      List.headD_cons, List.tail_cons]

theorem icmpK_eq_lex (n : Nat) (x y : List Int) (hx : x.length ≤ n) (hy : y.length ≤ n) :
    icmpK n x y = lexCmp (padSpec n x) (padSpec n y) := by
  induction n generalizing x y with
  | zero =>
    rw [List.eq_nil_of_length_eq_zero (Nat.le_zero.mp hx),
      List.eq_nil_of_length_eq_zero (Nat.le_zero.mp hy)]
    rfl
  | succ n ih =>
    rw [padSpec_succ, padSpec_succ, lexCmp_cons, icmpK_succ,
      ih _ _ (tail_length_le hx) (tail_length_le hy)]

/-- **insertion-cost comparison is the lexicographic order of the zero-padded vectors** -/
theorem icmp_eq_spec (x y : List UInt64) : icmp x y = icostSpec x y := by
  unfold icmp icostSpec
  apply icmpK_eq_lex <;> rw [List.length_map]
  · exact Nat.le_max_left _ _
  · exact Nat.le_max_right _ _

theorem zipPad_getD (f : Int → Int → Int) (hf : f 0 0 = 0) (x y : List Int) (i : Nat) :
    (zipPad f x y).getD i 0 = f (x.getD i 0) (y.getD i 0) := by
  induction i generalizing x y with
  | zero => cases x <;> cases y <;> simp only [zipPad, List.getD_nil, List.getD_cons_zero, hf]
  | succ i ih =>
    cases x <;> cases y <;> simp only [zipPad, List.getD_nil, List.getD_cons_succ, ih, hf]

theorem zipPad_length (f : Int → Int → Int) (x y : List Int) :
    (zipPad f x y).length = max x.length y.length := by
  fun_induction zipPad f x y with
  | case1 => rfl
  | case2 x xs ih => simp only [List.length_cons, List.length_nil, ih, Nat.max_zero]
  | case3 y ys ih => simp only [List.length_cons, List.length_nil, ih, Nat.zero_max]
  | case4 x xs y ys ih => simp only [List.length_cons, ih, Nat.add_max_add_right]

/-- **(x + y) − y = x component-wise (missing components read as zero)**, vectors of any lengths -/
theorem icost_add_sub_cancel (x y : List Int) (i : Nat) :
    (isub (iadd x y) y).getD i 0 = x.getD i 0 := by
  unfold isub iadd
  rw [zipPad_getD _ rfl, zipPad_getD _ rfl]
  exact Int.add_sub_cancel _ _

/-- **(x − y) + y = x component-wise** -/
theorem icost_sub_add_cancel (x y : List Int) (i : Nat) :
    (iadd (isub x y) y).getD i 0 = x.getD i 0 := by
  unfold isub iadd
  rw [zipPad_getD _ rfl, zipPad_getD _ rfl]
  exact Int.sub_add_cancel _ _

theorem hd_eq_getD (x : List Int) : hd x = x.getD 0 0 := by cases x <;> rfl

theorem getD_tail (x : List Int) (i : Nat) : x.tail.getD i 0 = x.getD (i + 1) 0 := by
  cases x <;> rfl

theorem icmpK_eq_of_getD (n : Nat) (x y : List Int) (h : ∀ i, x.getD i 0 = y.getD i 0) :
    icmpK n x y = .eq := by
  induction n generalizing x y with
  | zero => rfl
  | succ n ih =>
    rw [icmpK_succ, hd_eq_getD, hd_eq_getD, h 0, Int.compare_eq_eq.mpr rfl]
    exact ih _ _ fun i => by rw [getD_tail, getD_tail, h]

theorem icost_add_sub_cmp_eq (x y : List Int) : icmpI (isub (iadd x y) y) x = .eq :=
  icmpK_eq_of_getD _ _ _ (icost_add_sub_cancel x y)

theorem icost_sub_add_cmp_eq (x y : List Int) : icmpI (iadd (isub x y) y) x = .eq :=
  icmpK_eq_of_getD _ _ _ (icost_sub_add_cancel x y)

-- +0.0 and -0.0 are equal for a goal layer, distinct for total_cmp; NaN (0x7ff8…) is above +∞
example : layerCmp 0 0x8000000000000000 = .eq ∧ totalCmp 0x8000000000000000 0 = .lt ∧
    layerCmp 0x7ff0000000000000 0x7ff8000000000000 = .lt := by decide
example : goalCmp [⟨.single, [0], [0x8000000000000000]⟩, ⟨.multi, [1, 5], [2, 5]⟩] = .lt := by decide
example : icmp [0x3ff0000000000000] [0x3ff0000000000000, 0, 0] = .eq := by decide

end C09
