import VrpProofs.Machine
/-!
# C02 — every job is accounted for exactly once (abstract search machine)

Operators, random streams and thread schedules only decide which elementary steps happen, so every statement is
for EVERY operation sequence of the machine. What ties the machine to the code: the call-by-call correspondence of C04
and the `partition` oracle (`VrpModel/Spec.lean`) on every returned solution of the solver campaign.
-/
namespace Machine

def ucnt (a : Actor) (rs : List Route) : Nat := (rs.map (·.actor)).count a

def RegPart (fleet : List Actor) (c : Ctx) : Prop := ∀ a, c.available.count a + ucnt a c.routes = fleet.count a

theorem ucnt_nil (a : Actor) : ucnt a [] = 0 := rfl
theorem ucnt_cons (a : Actor) (r : Route) (rs : List Route) :
    ucnt a (r :: rs) = ucnt a rs + if r.actor == a then 1 else 0 := by
  simp only [ucnt, List.map_cons, List.count_cons]
theorem ucnt_append (a : Actor) (rs ss : List Route) : ucnt a (rs ++ ss) = ucnt a rs + ucnt a ss := by
  simp only [ucnt, List.map_append, List.count_append]

theorem Step.registry {c c' : Ctx} {op : Op} (h : Step c op c') (a : Actor) :
    c'.available.count a + ucnt a c'.routes = c.available.count a + ucnt a c.routes := by
  cases h with
  | insert _ e | remove e => simp only [e, ucnt_append, ucnt_cons]
  | insertNew _ ha => simp +arith only [ucnt_append, ucnt_cons, ucnt_nil, ← count_erase_add a ha]
  | dropRoute e => simp +arith only [e, ucnt_append, ucnt_cons, List.count_cons]
  | finalize | prepare | ignore | promote => rfl  -- neither `available` nor `routes` is touched

theorem step_reg (fleet : List Actor) (c c' : Ctx) (op : Op) (h : RegPart fleet c) (hs : step c op = some c') :
    RegPart fleet c' :=
  fun a => ((Step.of_step hs).registry a).trans (h a)

theorem run_reg (fleet : List Actor) (ops : List Op) :
    ∀ c c', RegPart fleet c → run c ops = some c' → RegPart fleet c' :=
  run_induction (fun c c' op => step_reg fleet c c' op) ops

/-- **no vehicle drives two tours, and a vehicle is offered exactly when it drives none** (for a fleet
    without duplicates) -/
theorem registry_matches_routes (fleet : List Actor) (c : Ctx) (h : RegPart fleet c) (hnd : fleet.Nodup)
    (a : Actor) (ha : a ∈ fleet) :
    (a ∈ c.available ↔ ucnt a c.routes = 0) ∧ ucnt a c.routes ≤ 1 := by
  have h1 := h a
  rw [hnd.count, if_pos ha] at h1
  rw [← List.count_pos_iff]
  lia

theorem finalize_no_required (c c' : Ctx) (h : step c .finalize = some c') : c'.required = [] := by
  cases h; rfl

theorem cnt_filter_nonempty (x : Job) (rs : List Route) : cnt x (rs.filter (fun r => !r.jobs.isEmpty)) = cnt x rs := by
  induction rs with
  | nil => rfl
  | cons r rs ih =>
    rw [List.filter_cons, cnt_cons]
    cases hr : r.jobs with
    | nil => exact ih.trans (Nat.zero_add _).symm
    | cons _ _ => exact (cnt_cons ..).trans (by rw [ih, hr])

theorem dropEmpty_part (all : List Job) (c : Ctx) (h : Part all c) : Part all (dropEmpty c) := by
  intro x
  rw [← h x, count_allJobs, count_allJobs]
  exact congrArg _ (cnt_filter_nonempty x c.routes)

theorem dropEmpty_no_empty_route (c : Ctx) : ∀ r ∈ (dropEmpty c).routes, r.jobs ≠ [] := by
  intro r hr he
  have := (List.mem_filter.mp hr).2
  rw [he] at this
  cases this

/-- what `Solution::from` reports as unassigned: `unassigned` together with `required` -/
def reported (c : Ctx) : List Job := c.unassigned ++ c.required

theorem part_places {all : List Job} {c : Ctx} (h : Part all c) (x : Job) :
    c.assigned.count x + (reported c).count x + c.ignored.count x = all.count x := by
  rw [← h x]
  simp +arith only [Ctx.allJobs, reported, List.count_append]

/-- **C02 (model)**: in every reachable state each plan job is assigned, reported unassigned or a parked conditional
    job, exactly as often as it occurs in the plan -/
theorem reachable_solution_partition (all : List Job) (ops : List Op) (c c' : Ctx)
    (h : Part all c) (hr : run c ops = some c') (x : Job) :
    c'.assigned.count x + (reported c').count x + c'.ignored.count x = all.count x :=
  part_places (run_part all ops c c' h hr) x

theorem exactly_one_place (all : List Job) (hnd : all.Nodup) (c : Ctx) (h : Part all c) (x : Job) (hx : x ∈ all) :
    c.assigned.count x + (reported c).count x + c.ignored.count x = 1 := by
  rw [part_places h, hnd.count, if_pos hx]

theorem no_foreign_job (all : List Job) (c : Ctx) (h : Part all c) (x : Job) (hx : x ∉ all) :
    x ∉ c.assigned ∧ x ∉ reported c := by
  have := part_places h x
  rw [List.count_eq_zero.mpr hx] at this
  rw [← List.count_eq_zero, ← List.count_eq_zero]
  lia

/-- no step lowers the assignment count of a locked job: `remove` refuses it, `dropRoute` refuses its route -/
theorem step_locked_stays (c c' : Ctx) (op : Op) (x : Job) (hl : x ∈ c.locked) (hs : step c op = some c') :
    cnt x c.routes ≤ cnt x c'.routes := by
  cases Step.of_step hs with
  | insert _ e => simp +arith only [e, cnt_append, cnt_cons, List.count_cons]
  | insertNew => exact cnt_append x _ _ ▸ Nat.le_add_right ..
  | @remove j _ _ _ e _ hj =>
    have hx : x ≠ j := fun e => hj (e ▸ hl)
    simp only [e, cnt_append, cnt_cons, List.count_erase_of_ne hx, Nat.le_refl]
  | @dropRoute _ _ rt e hj =>
    have hx : rt.jobs.count x = 0 := List.count_eq_zero.mpr fun hm => hj x hm hl
    simp only [e, cnt_append, cnt_cons, hx, Nat.zero_add, Nat.le_refl]
  | _ => exact Nat.le_refl _

def ex0 : Ctx := { required := [1, 2, 3], ignored := [], unassigned := [], locked := [2], routes := [], available := [7, 8] }
example : Part [1, 2, 3] ex0 := by intro x; simp [ex0, Ctx.allJobs, Ctx.assigned]
example : (run ex0 [.insertNew 2 7, .insertNew 1 8, .remove 1 1, .finalize]).map (fun c => (c.assigned, reported c))
    = some ([2], [1, 3]) := by decide
example : run ex0 [.insertNew 2 7, .remove 2 0] = none := by decide

end Machine
