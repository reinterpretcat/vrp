import VrpProofs.C06
import VrpProofs.C06Cap
/-!
# C01 — tours stay feasible under every sequence of search steps (time windows and shift, capacity)

SPEC: `Route.tourFeas` (step-by-step simulation of a tour: every arrival within the window used, arrival at
the end within the shift) and `C06Cap.capOk1` (load profile within capacity).
Steps of the abstract tour machine: insertion accepted by the evaluator model (`C06.evalTime = ok`),
removal of an activity, dropping a route, taking a fresh vehicle. Which operator, random number or thread
chose them does not matter: the theorem is for EVERY operation sequence.

Insertions need no hypothesis; removals keep time feasibility only **under the triangle inequality** (`Metric`): without
it the statement is false (deviation S7 of /repo, a known finding; the proof-backed campaign uses metric matrices). The
machine carries no loads: capacity is stated on one-dimensional profiles beside it.
The operator bodies themselves are traced (solver campaign + `Spec.feasible` on every returned solution).
-/

namespace C01
open Route C06

variable (t : Nat → Nat → Int)

def Metric : Prop := ∀ a b c, t a c ≤ t a b + t b c

theorem feas_head_arrival_mono (b : Act) (r : List Act) (l1 l2 : Nat) (d1 d2 : Int)
    (h : feas t (b :: r) l1 d1 = true) (hle : d2 + t l2 b.loc ≤ d1 + t l1 b.loc) :
    feas t (b :: r) l2 d2 = true := by
  rw [C06.feas_cons_iff] at h ⊢
  exact ⟨Int.le_trans hle h.1, C06.feas_mono t r b.loc _ _ (C06.depOf_mono b hle) h.2⟩

/-- **removing an activity keeps the tour time-feasible when travel times obey the triangle inequality** -/
theorem remove_keeps_time_feasible (hm : Metric t) (pre rest : List Act) (x : Act) (l : Nat) (dep : Int)
    (hx : 0 ≤ x.dur) (h : feas t (pre ++ x :: rest) l dep = true) :
    feas t (pre ++ rest) l dep = true := by
  rw [C06.feas_append, Bool.and_eq_true] at h ⊢
  refine ⟨h.1, ?_⟩
  cases rest with
  | nil => exact C06.feas_nil t _ _
  | cons b r =>
    -- the direct way to `b` is not longer than the way through `x`, and `x` is left not before it is reached
    refine feas_head_arrival_mono t b r x.loc _ _ _ ((C06.feas_cons_iff t ..).mp h.2).2 ?_
    have := hm (after t pre l dep).1 x.loc b.loc
    have := ((C06.depOf_le_iff x ((after t pre l dep).2 + t (after t pre l dep).1 x.loc) _).mp (Int.le_refl _)).1
    omega

/-- **without the triangle inequality removal can make a feasible tour infeasible** (deviation S7):
    depot 0, C is reachable in time only through A -/
theorem removal_breaks_feasibility_without_metric :
    ∃ (t : Nat → Nat → Int) (a c : Act),
      feas t [a, c] 0 0 = true ∧ feas t [c] 0 0 = false := by
  refine ⟨fun x y => if x = y then 0 else if x = 0 ∧ y = 2 then 10 else 1,
          { loc := 1, s := 0, e := 100, dur := 0 }, { loc := 2, s := 0, e := 5, dur := 0 }, ?_, ?_⟩ <;> decide

structure TourS where
  veh : Veh
  jobs : List Act

inductive TOp where
  | insert (r p : Nat) (x : Act)   -- accepted by the evaluator model
  | remove (r p : Nat)             -- ruin / local search removes the p-th job activity
  | drop (r : Nat)                 -- whole route removed
  | fresh (v : Veh)                -- a vehicle from the registry starts an (empty) tour

def tstep (s : List TourS) : TOp → Option (List TourS)
  | .insert r p x =>
    match s[r]? with
    | some tr =>
      if p ≤ tr.jobs.length ∧ evalTime t tr.veh tr.jobs p x = .ok then
        some (s.set r { tr with jobs := insertAt tr.jobs p x })
      else none
    | none => none
  | .remove r p =>
    match s[r]? with
    | some tr => if p < tr.jobs.length then some (s.set r { tr with jobs := tr.jobs.eraseIdx p }) else none
    | none => none
  | .drop r => some (s.eraseIdx r)
  | .fresh v => if tourFeas t v [] = true then some (s ++ [⟨v, []⟩]) else none

def trun (s : List TourS) : List TOp → Option (List TourS)
  | [] => some s
  | op :: ops => (tstep t s op).bind (fun s' => trun s' ops)

def AllFeasible (s : List TourS) : Prop := ∀ tr ∈ s, tourFeas t tr.veh tr.jobs = true ∧ ∀ a ∈ tr.jobs, 0 ≤ a.dur

theorem allFeasible_set (s : List TourS) (r : Nat) (tr : TourS) (h : AllFeasible t s)
    (htr : tourFeas t tr.veh tr.jobs = true ∧ ∀ a ∈ tr.jobs, 0 ≤ a.dur) : AllFeasible t (s.set r tr) :=
  fun y hy => (List.mem_or_eq_of_mem_set hy).elim (h y) fun e => e ▸ htr

theorem tourFeas_eraseIdx (hm : Metric t) (v : Veh) (jobs : List Act) (p : Nat) (hp : p < jobs.length)
    (hd : 0 ≤ jobs[p].dur) (h : tourFeas t v jobs = true) : tourFeas t v (jobs.eraseIdx p) = true := by
  rw [tourFeas, Veh.full, List.eraseIdx_eq_take_drop_succ, List.append_assoc]
  rw [tourFeas, Veh.full, ← List.take_append_drop p jobs, List.drop_eq_getElem_cons hp, List.append_assoc,
    List.cons_append] at h
  exact remove_keeps_time_feasible t hm _ _ _ _ _ hd h

theorem tstep_feasible (hm : Metric t) (s s' : List TourS) (op : TOp) (hx : ∀ r p x, op = .insert r p x → 0 ≤ x.dur)
    (h : AllFeasible t s) (hs : tstep t s op = some s') : AllFeasible t s' := by
  cases op with
  | insert r p x =>
    rw [tstep] at hs
    split at hs
    · next tr hr =>
      have htr := h tr (List.mem_of_getElem? hr)
      split at hs <;> cases hs
      next hc =>
        exact allFeasible_set t s r _ h ⟨C06.evalTime_sound t tr.veh tr.jobs p x hc.1 htr.1 hc.2, fun a ha =>
          (C06.mem_insertAt tr.jobs p x a ha).elim (fun e => e ▸ hx r p x rfl) (htr.2 a)⟩
    · cases hs
  | remove r p =>
    rw [tstep] at hs
    split at hs
    · next tr hr =>
      have htr := h tr (List.mem_of_getElem? hr)
      split at hs <;> cases hs
      next hp =>
        exact allFeasible_set t s r _ h ⟨tourFeas_eraseIdx t hm tr.veh tr.jobs p hp (htr.2 _ (List.getElem_mem hp)) htr.1,
          fun a ha => htr.2 a (List.mem_of_mem_eraseIdx ha)⟩
    · cases hs
  | drop r =>
    cases hs
    exact fun y hy => h y (List.mem_of_mem_eraseIdx hy)
  | fresh v =>
    rw [tstep] at hs
    split at hs <;> cases hs
    next hf =>
      intro y hy
      rcases List.mem_append.mp hy with h1 | h1
      · exact h y h1
      · rw [List.mem_singleton.mp h1]
        exact ⟨hf, nofun⟩

/-- **C01 (model, time windows + shift)**: with metric travel times every state reachable from
    feasible tours by ANY sequence of evaluator-accepted insertions, removals, route drops and fresh tours
    consists of feasible tours -/
theorem machine_preserves_feasible (hm : Metric t) (ops : List TOp)
    (hx : ∀ op ∈ ops, ∀ r p x, op = .insert r p x → 0 ≤ x.dur) :
    ∀ s s', AllFeasible t s → trun t s ops = some s' → AllFeasible t s' := by
  induction ops with
  | nil => intro s s' h hr; cases hr; exact h
  | cons op ops ih =>
    intro s s' h hr
    obtain ⟨s1, hs, hr⟩ := Option.bind_eq_some_iff.mp hr
    exact ih (fun o ho => hx o (List.mem_cons_of_mem _ ho)) s1 s'
      (tstep_feasible t hm s s1 op (hx op List.mem_cons_self) h hs) hr

open C06Cap in
/-- removing an activity that has a non-negative static delivery and leaves a non-negative load on board
    (`sp + dp - dd = change + sd`) never raises any load of the profile -/
theorem remove_keeps_capacity (cap : Int) (ds : List Dem1) (p : Nat) (x : Dem1)
    (hsd : 0 ≤ x.sd) (hstay : 0 ≤ x.change + x.sd) (h : capOk1 cap (insertAt1 ds p x)) : capOk1 cap ds := by
  -- with `x` the loads up to the pivot are higher by `sd`, those from the pivot on by `change + sd`
  obtain ⟨h1, h2⟩ := (capOk1_insertAt1_iff cap ds p x).mp h
  refine (capOk1_iff_segments cap ds p).mpr ⟨fun l hl => ?_, fun l hl => ?_⟩
  · have := h1 l hl; omega
  · have := h2 l hl; omega

open C06Cap in
/-- removing an activity with static demand only (single-task pickup / delivery / replacement) never raises
    any load of the profile -/
theorem remove_keeps_capacity_static (cap : Int) (ds : List Dem1) (p : Nat) (x : Dem1)
    (hdp : x.dp = 0) (hdd : x.dd = 0) (hsp : 0 ≤ x.sp) (hsd : 0 ≤ x.sd)
    (h : capOk1 cap (insertAt1 ds p x)) : capOk1 cap ds :=
  remove_keeps_capacity cap ds p x hsd (by unfold Dem1.change; omega) h

def exT : Nat → Nat → Int := fun a b => if a = b then 0 else 5
example : Metric exT := by
  intro a b c
  unfold exT
  by_cases hab : a = b
  · rw [hab, if_pos rfl, Int.zero_add]; exact Int.le_refl _
  · rw [if_neg hab]; split <;> split <;> omega
example : (trun exT [] [.fresh { startLoc := 0, earliest := 0, dep := 0, endAt := some (0, 60) },
    .insert 0 0 { loc := 1, s := 0, e := 20, dur := 2 }, .insert 0 1 { loc := 2, s := 0, e := 30, dur := 1 },
    .remove 0 0]).map (fun s => s.map (fun tr => tr.jobs.map (·.loc))) = some [[2]] := by decide +kernel

end C01
