import VrpProofs.C14.Machine
/-!
# C14 — property theorems: tours and the vehicle registry stay well-formed under any operation sequence

A single tour (`TourOp`), a single registry (`RegOp`), a single registry context (`CtxOp`), each on its own,
then the handle machine over all of them (`Op` of the model: the language the driver runs).
-/

namespace C14

inductive TourOp where
  | insAt (j s i : Nat)
  | insLast (j s : Nat)
  | rem (j : Nat)
  | remAt (i : Nat)

def Tour.stepOp (t : Tour) : TourOp → Tour × Out
  | .insAt j s i => ((t.insertAtRaw (Act.job j s) i).1, if (t.insertAtRaw (Act.job j s) i).2 then Out.panic else Out.unit)
  | .insLast j s => ((t.insertLastRaw (Act.job j s)).1, if (t.insertLastRaw (Act.job j s)).2 then Out.panic else Out.unit)
  | .rem j => ((t.remove j).1, Out.bool (t.remove j).2)
  | .remAt i => ((t.removeActivityAt i).1, match (t.removeActivityAt i).2 with | some j => Out.job j | none => Out.panic)

/-- `none` = outside the contract of `insert_at` -/
def RTour.stepOp (r : RTour) : TourOp → Option (RTour × Out)
  | .insAt j s i => (r.insertAt j s i).map (fun r' => (r', Out.unit))
  | .insLast j s => some (r.insertLast j s, Out.unit)
  | .rem j => some ((r.remove j).1, Out.bool (r.remove j).2)
  | .remAt i => some ((r.removeActivityAt i).1, match (r.removeActivityAt i).2 with | some j => Out.job j | none => Out.panic)

def Tour.run (t : Tour) : List TourOp → Tour × List Out
  | [] => (t, [])
  | op :: ops => ((Tour.run (t.stepOp op).1 ops).1, (t.stepOp op).2 :: (Tour.run (t.stepOp op).1 ops).2)

def RTour.run (r : RTour) : List TourOp → Option (RTour × List Out)
  | [] => some (r, [])
  | op :: ops =>
    match r.stepOp op with
    | none => none
    | some (r1, o) =>
      match RTour.run r1 ops with
      | none => none
      | some (r2, os) => some (r2, o :: os)

/-- the only guard: `insert_at` is called with an index between the depot ends, in terms of the tour's
    own public counter -/
def TourOp.ok (t : Tour) : TourOp → Prop
  | .insAt _ _ i => 1 ≤ i ∧ i ≤ t.jobActivityCount + 1
  | _ => True

def Guarded (t : Tour) : List TourOp → Prop
  | [] => True
  | op :: ops => op.ok t ∧ Guarded (t.stepOp op).1 ops

theorem tour_step_refines {t r} (h : Sim t r) (op : TourOp) (hok : op.ok t) :
    ∃ r', r.stepOp op = some (r', (t.stepOp op).2) ∧ Sim (t.stepOp op).1 r' := by
  cases op with
  | insAt j s i =>
    have hr : r.insertAt j s i = some { r with mid := vecInsert r.mid (i - 1) (j, s) } :=
      if_pos (jac_of_sim h ▸ hok)
    obtain ⟨h1, h2⟩ := sim_insertAt h hr
    exact ⟨_, by simp only [RTour.stepOp, Tour.stepOp, hr, h1, Option.map_some, Bool.false_eq_true, if_false], h2⟩
  | insLast j s =>
    obtain ⟨h1, h2⟩ := sim_insertLast h j s
    exact ⟨_, by simp only [RTour.stepOp, Tour.stepOp, h1, Bool.false_eq_true, if_false], h2⟩
  | rem j =>
    obtain ⟨h1, h2⟩ := sim_remove h j
    exact ⟨_, by simp only [RTour.stepOp, Tour.stepOp, h1], h2⟩
  | remAt i =>
    obtain ⟨h1, h2⟩ := sim_removeAt h i
    exact ⟨_, by simp only [RTour.stepOp, Tour.stepOp, h1], h2⟩

theorem tour_guard_iff_reference {t r} (h : Sim t r) (op : TourOp) : op.ok t ↔ (r.stepOp op).isSome = true := by
  cases op with
  | insAt j s i =>
    show 1 ≤ i ∧ i ≤ t.jobActivityCount + 1 ↔ ((r.insertAt j s i).map _).isSome = true
    rw [jac_of_sim h, Option.isSome_map, RTour.insertAt]
    by_cases hc : 1 ≤ i ∧ i ≤ r.mid.length + 1
    · rw [if_pos hc]; exact iff_of_true hc rfl
    · rw [if_neg hc]; exact iff_of_false hc Bool.false_ne_true
  | insLast j s | rem j | remAt i => exact iff_of_true trivial rfl

theorem tour_run_refines {t r} (h : Sim t r) (ops : List TourOp) (hg : Guarded t ops) :
    ∃ r', r.run ops = some (r', (t.run ops).2) ∧ Sim (t.run ops).1 r' := by
  induction ops generalizing t r with
  | nil => exact ⟨r, rfl, h⟩
  | cons op ops ih =>
    obtain ⟨r1, hr1, hs1⟩ := tour_step_refines h op hg.1
    obtain ⟨r2, hr2, hs2⟩ := ih hs1 hg.2
    refine ⟨r2, ?_, hs2⟩
    simp only [RTour.run, Tour.run, hr1, hr2]

theorem tour_ops_preserve_WF {t : Tour} (h : t.WF) (ops : List TourOp) (hg : Guarded t ops) :
    (t.run ops).1.WF := by
  obtain ⟨r, hr⟩ := h
  obtain ⟨r', _, hs⟩ := tour_run_refines hr ops hg
  exact ⟨r', hs⟩

theorem run_closed (t : Tour) (ops : List TourOp) : (t.run ops).1.closed = t.closed := by
  induction ops generalizing t with
  | nil => rfl
  | cons op ops ih =>
    refine (ih _).trans ?_
    cases op with
    | insAt _ _ _ | insLast _ _ => exact insertAtRaw_closed ..
    | rem _ => rfl
    | remAt _ => exact removeActivityAt_closed ..

theorem tour_observation_after_ops (closed : Bool) (ops : List TourOp) (hg : Guarded (Tour.new closed) ops) (n : Nat) :
    ∃ r', (RTour.new closed).run ops = some (r', ((Tour.new closed).run ops).2) ∧
      ((Tour.new closed).run ops).1.observe n = r'.observe n ∧
      wfObs n closed (((Tour.new closed).run ops).1.observe n) = true := by
  obtain ⟨r', hr, hs⟩ := tour_run_refines (sim_new closed) ops hg
  have hw := wfObs_of_sim hs n
  rw [run_closed] at hw
  exact ⟨r', hr, observe_of_sim hs n, hw⟩

/-- what `Tour.WF` means in terms of the code-shaped tour alone -/
theorem WF_facts {t : Tour} (h : t.WF) :
    t.acts.head? = some Act.start ∧
    (t.acts.getLast? = some Act.finish ↔ t.closed = true) ∧
    (∀ a ∈ t.acts.tail.dropLast, a ≠ Act.start ∧ a ≠ Act.finish) ∧
    t.jobs.Nodup ∧ (∀ j, j ∈ t.jobs ↔ ∃ s, Act.job j s ∈ t.acts) ∧
    t.total = t.jobActivityCount + 1 + (if t.closed then 1 else 0) ∧
    t.jobCount = (dedup (t.acts.filterMap Act.jobId?)).length ∧
    t.legs = specLegs t.closed t.acts := by
  obtain ⟨r, hr⟩ := h
  refine ⟨head_of_sim hr, ?_, fun a ha => ?_, hr.nodup, fun j => ?_, ?_, ?_, ?_⟩
  · rw [last_of_sim hr, hr.closed]
    cases r.closed
    · cases r.mid.getLast? <;> simp
    · simp
  · have hm : a ∈ r.mid.map jobAct := by
      rw [hr.acts, render_eq, List.tail_cons] at ha
      cases hc : r.closed <;> rw [hc] at ha
      · exact (List.dropLast_sublist _).subset (by rwa [ends, if_neg Bool.false_ne_true, List.append_nil] at ha)
      · rwa [ends, if_pos rfl, List.dropLast_concat] at ha
    obtain ⟨p, _, rfl⟩ := List.mem_map.mp hm
    exact ⟨nofun, nofun⟩
  · rw [hr.mem j, ← filterMap_jobId?_render, ← hr.acts, List.mem_filterMap]
    constructor
    · rintro ⟨a, ha, e⟩
      cases a <;> cases e
      exact ⟨_, ha⟩
    · rintro ⟨s, hs⟩
      exact ⟨_, hs, rfl⟩
  · rw [total_of_sim hr, jac_of_sim hr, hr.closed]
  · rw [jobCount_of_sim hr, hr.acts, filterMap_jobId?_render]; rfl
  · rw [legs_of_sim hr, hr.acts, hr.closed]

/-! ### the guard of `insert_at` is necessary: what the code does outside it -/

theorem insertAt_index0_breaks_WF :
    ((Tour.new true).insertAtRaw (Act.job 0 0) 0).2 = false ∧ ¬ ((Tour.new true).insertAtRaw (Act.job 0 0) 0).1.WF := by
  refine ⟨rfl, ?_⟩
  rintro ⟨r, hr⟩
  have := hr.acts
  rw [render_eq] at this
  cases this

theorem insertAt_past_end_breaks_WF :
    ((Tour.new true).insertAtRaw (Act.job 0 0) 2).2 = false ∧ ¬ ((Tour.new true).insertAtRaw (Act.job 0 0) 2).1.WF := by
  refine ⟨rfl, ?_⟩
  rintro ⟨r, hr⟩
  have h1 := last_of_sim hr
  have h2 : r.closed = true := hr.closed.symm
  rw [h2] at h1
  cases h1

/-- `Vec::insert` panics only after the job set was updated: the job is then "in the tour" without an activity -/
theorem insertAt_out_of_range_corrupts_jobs :
    ((Tour.new false).insertAtRaw (Act.job 0 0) 2).2 = true ∧ ¬ ((Tour.new false).insertAtRaw (Act.job 0 0) 2).1.WF := by
  refine ⟨rfl, ?_⟩
  rintro ⟨r, hr⟩
  have hm := (hr.mem 0).mp (by decide)
  have ha := hr.acts
  rw [render_eq] at ha
  have hmid : r.mid = [] := by
    cases hmid : r.mid with
    | nil => rfl
    | cons p l => rw [hmid] at ha; cases ha
  rw [hmid] at hm
  simp at hm

/-- non-vacuity: a guarded sequence with a multi job, a duplicate, removals and a documented panic -/
example : Guarded (Tour.new true)
    [.insLast 0 0, .insAt 2 0 1, .insAt 2 1 3, .insLast 0 0, .remAt 0, .remAt 2, .rem 2, .rem 5] := by
  simp only [Guarded, TourOp.ok]
  decide

example : ((Tour.new true).run [.insLast 0 0, .insAt 2 0 1, .insAt 2 1 3, .insLast 0 0, .remAt 0, .remAt 2]).2
    = [.unit, .unit, .unit, .unit, .panic, .job 0] := rfl

inductive RegOp where
  | use (a : Nat)
  | free (a : Nat)
  | slice (keep : List Nat)
  | copy
deriving DecidableEq

def Registry.stepOp (r : Registry) : RegOp → Registry × Out
  | .use a => ((r.useActor a).1, Out.bool (r.useActor a).2)
  | .free a => ((r.freeActor a).1, Out.bool (r.freeActor a).2)
  | .slice keep => (r.deepSlice keep.contains, Out.unit)
  | .copy => (r, Out.unit)

def RReg.stepOp (r : RReg) : RegOp → RReg × Out
  | .use a => ((r.use a).1, Out.bool (r.use a).2)
  | .free a => ((r.free a).1, Out.bool (r.free a).2)
  | .slice keep => (r.slice keep.contains, Out.unit)
  | .copy => (r, Out.unit)

def Registry.run (r : Registry) : List RegOp → Registry × List Out
  | [] => (r, [])
  | op :: ops => ((Registry.run (r.stepOp op).1 ops).1, (r.stepOp op).2 :: (Registry.run (r.stepOp op).1 ops).2)

def RReg.run (r : RReg) : List RegOp → RReg × List Out
  | [] => (r, [])
  | op :: ops => ((RReg.run (r.stepOp op).1 ops).1, (r.stepOp op).2 :: (RReg.run (r.stepOp op).1 ops).2)

theorem reg_step_refines {r rr} (h : RSim r rr) (op : RegOp) :
    (r.stepOp op).2 = (rr.stepOp op).2 ∧ RSim (r.stepOp op).1 (rr.stepOp op).1 := by
  cases op with
  | use a => exact ⟨congrArg Out.bool (rsim_use h a).1, (rsim_use h a).2⟩
  | free a => exact ⟨congrArg Out.bool (rsim_free h a).1, (rsim_free h a).2⟩
  | slice keep => exact ⟨rfl, rsim_slice h _⟩
  | copy => exact ⟨rfl, h⟩

theorem reg_run_refines {r rr} (h : RSim r rr) (ops : List RegOp) :
    (r.run ops).2 = (rr.run ops).2 ∧ RSim (r.run ops).1 (rr.run ops).1 := by
  induction ops generalizing r rr with
  | nil => exact ⟨rfl, h⟩
  | cons op ops ih =>
    obtain ⟨h1, h2⟩ := reg_step_refines h op
    obtain ⟨h3, h4⟩ := ih h2
    exact ⟨by simp only [Registry.run, RReg.run, h1, h3], h4⟩

theorem stepOp_inv {r : Registry} (h : RInv r) (op : RegOp) : RInv (r.stepOp op).1 := by
  cases op with
  | use a => exact useActor_inv h a
  | free a => exact freeActor_inv h a
  | slice keep => exact deepSlice_inv h _
  | copy => exact h

theorem run_invariant {P : Registry → Prop} {Q : RegOp → Prop}
    (hstep : ∀ r op, Q op → P r → P (r.stepOp op).1) {r : Registry} (h : P r) {ops : List RegOp}
    (hops : ∀ op ∈ ops, Q op) : P (r.run ops).1 := by
  induction ops generalizing r with
  | nil => exact h
  | cons op ops ih =>
    exact ih (hstep r op (hops op List.mem_cons_self) h) fun o ho => hops o (List.mem_cons_of_mem _ ho)

theorem registry_ops_preserve_inv {r : Registry} (h : RInv r) (ops : List RegOp) : RInv (r.run ops).1 :=
  run_invariant (P := RInv) (Q := fun _ => True) (fun _ op _ h => stepOp_inv h op) h fun _ _ => trivial

theorem registry_refines_from_new (f : Fleet) (ops : List RegOp) (n : Nat) :
    ((Registry.new f).run ops).2 = ((RReg.new f.length).run ops).2 ∧
    ((Registry.new f).run ops).1.observe false = (RObj.reg false ((RReg.new f.length).run ops).1).observe n := by
  obtain ⟨h1, h2⟩ := reg_run_refines (rsim_new f) ops
  exact ⟨h1, observe_of_rsim h2 false⟩

theorem available_iff_not_in_use {r rr} (h : RSim r rr) (a : Nat) :
    a ∈ r.availableList ↔ a ∈ rr.actors ∧ a ∉ rr.held := by
  rw [mem_availableList, h.avail a]
  simp [RReg.avail]

theorem use_succeeds_iff_available {r : Registry} (h : RInv r) (a : Nat) :
    ((r.useActor a).2 = true ↔ a ∈ r.availableList) ∧ a ∉ (r.useActor a).1.availableList := by
  refine ⟨by rw [useActor_snd h, mem_availableList], ?_⟩
  rw [mem_availableList, useActor_isAvail h, bne_self_eq_false, Bool.and_false]
  exact Bool.false_ne_true

theorem isAvail_stays_false {r : Registry} (h : RInv r) (a : Nat) (op : RegOp) (hop : op ≠ RegOp.free a)
    (hv : r.isAvail a = false) : (r.stepOp op).1.isAvail a = false := by
  cases op with
  | use b => show (r.useActor b).1.isAvail a = false; rw [useActor_isAvail h, hv]; rfl
  | free b =>
    show (r.freeActor b).1.isAvail a = false
    rw [freeActor_isAvail h, hv, beq_eq_false_iff_ne.mpr fun e => hop (by rw [e])]; rfl
  | slice keep => show (r.deepSlice _).isAvail a = false; rw [deepSlice_isAvail, hv]; rfl
  | copy => exact hv

/-- **never handed out twice**: after `use_actor a` (whatever it returned), only a `free_actor a` lets a further
    `use_actor a` succeed -/
theorem never_handed_out_twice {r : Registry} (h : RInv r) (a : Nat) (ops : List RegOp)
    (hops : ∀ op ∈ ops, op ≠ RegOp.free a) :
    (((r.useActor a).1.run ops).1.useActor a).2 = false := by
  have h0 : (r.useActor a).1.isAvail a = false := by
    rw [useActor_isAvail h, bne_self_eq_false, Bool.and_false]
  obtain ⟨hinv, hv⟩ := run_invariant (P := fun r => RInv r ∧ r.isAvail a = false)
    (fun r op hop hr => ⟨stepOp_inv hr.1 op, isAvail_stays_false hr.1 a op hop hr.2⟩) ⟨useActor_inv h a, h0⟩ hops
  rw [useActor_snd hinv, hv]

theorem free_makes_available {r : Registry} (h : RInv r) (a : Nat) (ha : a ∈ r.all) :
    ((r.freeActor a).1.useActor a).2 = true := by
  rw [useActor_snd (freeActor_inv h a), freeActor_isAvail h, beq_self_eq_true, Bool.true_and,
    List.contains_iff_mem.mpr ha, Bool.or_true]

theorem slice_keeps_exactly {r : Registry} (h : RInv r) (keep : Nat → Bool) :
    (r.deepSlice keep).all = r.all.filter keep ∧
    (∀ a, a ∈ (r.deepSlice keep).availableList ↔ a ∈ r.availableList ∧ keep a = true) ∧
    (∀ a, keep a = false → ((r.deepSlice keep).freeActor a).2 = false ∧
                           a ∉ ((r.deepSlice keep).freeActor a).1.availableList) := by
  have hinv := deepSlice_inv h keep
  refine ⟨rfl, fun a => ?_, fun a hk => ?_⟩
  · rw [mem_availableList, mem_availableList, deepSlice_isAvail, Bool.and_eq_true]
  · -- a filtered-out actor is neither registered nor offered in the slice
    have hna : (r.deepSlice keep).all.contains a = false :=
      Bool.eq_false_iff.mpr fun hc => by
        have := (List.mem_filter.mp (List.contains_iff_mem.mp hc)).2
        rw [hk] at this; cases this
    refine ⟨by rw [freeActor_snd hinv, hna]; rfl, ?_⟩
    rw [mem_availableList, freeActor_isAvail hinv, hna, Bool.and_false, Bool.or_false, deepSlice_isAvail, hk,
      Bool.and_false]
    exact Bool.false_ne_true

/-- non-vacuity: two groups, a vehicle taken twice, a slice, a foreign actor -/
example : ((Registry.new [1, 1, 4]).run [.use 0, .use 0, .free 0, .use 0, .slice [0, 2], .free 1, .use 7]).2
    = [.bool true, .bool false, .bool true, .bool true, .unit, .bool false, .bool false] := rfl

/-- non-vacuity of `never_handed_out_twice`: `Registry::new` meets the invariant, the sequence the side condition -/
example : ((((Registry.new [1, 1, 4]).useActor 0).1.run
    [.use 1, .free 1, .use 0, .slice [0, 1], .copy, .free 2]).1.useActor 0).2 = false :=
  never_handed_out_twice (new_inv _) 0 _ (by decide)

example : ((Registry.new [1, 1, 4]).deepSlice [0, 2].contains).all = [0, 2] := rfl

inductive CtxOp where
  | get (a : Nat)
  | useRoute (c : RouteCtx)
  | freeRoute (c : RouteCtx)
  | slice (keep : List Nat)
  | copy

def RegistryCtx.stepOp (x : RegistryCtx) : CtxOp → RegistryCtx
  | .get a => (x.getRoute a).1
  | .useRoute c => (x.useRoute c).1
  | .freeRoute c => (x.freeRoute c).1
  | .slice keep => x.deepSlice keep.contains
  | .copy => x

def CtxOp.toRegOp : CtxOp → RegOp
  | .get a => .use a
  | .useRoute c => .use c.actor
  | .freeRoute c => .free c.actor
  | .slice keep => .slice keep
  | .copy => .copy

def RegistryCtx.run (x : RegistryCtx) : List CtxOp → RegistryCtx
  | [] => x
  | op :: ops => RegistryCtx.run (x.stepOp op) ops

theorem ctx_step {closedOf : Nat → Bool} {x : RegistryCtx} (h : CInv closedOf x) (op : CtxOp) :
    CInv closedOf (x.stepOp op) ∧ (x.stepOp op).registry = (x.registry.stepOp op.toRegOp).1 := by
  cases op with
  | get a => exact ⟨(getRoute_spec h a).1, rfl⟩
  | useRoute c => exact ⟨useRoute_spec h c, rfl⟩
  | freeRoute c => exact ⟨freeRoute_spec h c, rfl⟩
  | slice keep => exact ⟨ctxSlice_spec h _, rfl⟩
  | copy => exact ⟨h, rfl⟩

theorem ctx_run {closedOf : Nat → Bool} {x : RegistryCtx} (h : CInv closedOf x) (ops : List CtxOp) :
    CInv closedOf (x.run ops) ∧ (x.run ops).registry = (x.registry.run (ops.map CtxOp.toRegOp)).1 := by
  induction ops generalizing x with
  | nil => exact ⟨h, rfl⟩
  | cons op ops ih =>
    obtain ⟨h1, h2⟩ := ctx_step h op
    obtain ⟨h3, h4⟩ := ih h1
    refine ⟨h3, ?_⟩
    simp only [RegistryCtx.run, List.map_cons, Registry.run]
    rw [h4, h2]

/-- **`get_route` hands out the empty route of an available actor, and never hands one out twice** -/
theorem ctx_never_hands_out_twice {closedOf : Nat → Bool} {x : RegistryCtx} (h : CInv closedOf x) (a : Nat)
    (ops : List CtxOp) (hops : ∀ op ∈ ops, ∀ c, op = CtxOp.freeRoute c → c.actor ≠ a) :
    ((x.getRoute a).2 = if x.registry.isAvail a then some (RouteCtx.proto a (closedOf a)) else none) ∧
    ((((x.getRoute a).1).run ops).getRoute a).2 = none := by
  obtain ⟨hc, hres⟩ := getRoute_spec h a
  refine ⟨hres, ?_⟩
  obtain ⟨hc', hreg'⟩ := ctx_run hc ops
  rw [(getRoute_spec hc' a).2, hreg']
  show (if (((x.registry.useActor a).1.run (ops.map CtxOp.toRegOp)).1.isAvail a) = true then _ else none) = none
  have hops' : ∀ op ∈ ops.map CtxOp.toRegOp, op ≠ RegOp.free a := by
    intro op hop e
    obtain ⟨o, ho, rfl⟩ := List.mem_map.mp hop
    cases o with
    | freeRoute c => exact hops _ ho c rfl (RegOp.free.inj e)
    | _ => cases e
  have hfin := never_handed_out_twice h.reg a (ops.map CtxOp.toRegOp) hops'
  have hinv : RInv ((x.registry.useActor a).1.run (ops.map CtxOp.toRegOp)).1 :=
    registry_ops_preserve_inv (useActor_inv h.reg a) _
  rw [useActor_snd hinv] at hfin
  rw [hfin]
  rfl

theorem handed_out_route_is_fresh (a : Nat) (c : Bool) (n : Nat) :
    (RouteCtx.proto a c).observe n = (RRoute.fresh a c).observe n :=
  observe_of_rcsim (rcsim_proto a c) n

theorem ctx_new (closedOf : Nat → Bool) (f : Fleet) :
    CInv closedOf (RegistryCtx.new closedOf (Registry.new f)) :=
  cinv_new closedOf (new_inv f)

/-- non-vacuity: a context over a fresh registry, another route taken and returned in between -/
example (closedOf : Nat → Bool) :
    ((((RegistryCtx.new closedOf (Registry.new [1, 1, 4])).getRoute 0).1.run
      [.get 1, .freeRoute (RouteCtx.proto 1 (closedOf 1)), .slice [0, 1], .copy]).getRoute 0).2 = none :=
  (ctx_never_hands_out_twice (ctx_new closedOf [1, 1, 4]) 0 _ (by
    intro op hop c hc
    simp only [List.mem_cons, List.mem_nil_iff, or_false] at hop
    rcases hop with rfl | rfl | rfl | rfl
    · cases hc
    · cases hc; simp [RouteCtx.proto, RouteCtx.accept, RouteCtx.new]
    · cases hc
    · cases hc)).2

/-- every branch of `Obj.eff` returns a literal list of writes, to the first handles the operation names -/
theorem eff_writes_targets (w : World) (st : Store Obj) (op : Op) (ws : List (Nat × Option Obj)) (out : Out)
    (h : Obj.eff w st op = .ok (ws, out)) : ws.map Prod.fst <+: op.targets := by
  have keys : ∀ {l : List (Nat × Option Obj)} {o : Out} {T : List Nat},
      (Except.ok (l, o) : Except String _) = .ok (ws, out) → l.map Prod.fst <+: T → ws.map Prod.fst <+: T := by
    intro l o T e hp
    cases e
    exact hp
  cases op with
  | newR _ dst _ | drop dst | newReg dst | newRctx dst => exact keys h (List.prefix_refl _)
  | insAt h' _ _ _ | insLast h' _ _ | insNoJob h' _ | rem h' _ | remAt h' _ =>
    cases hc : getR st h' <;> simp only [Obj.eff, hc, reduceCtorEq] at h
    exact keys h (List.prefix_refl _)
  | touch h' | accept h' | setState h' _ =>
    cases hc : getRc st h' <;> simp only [Obj.eff, hc, reduceCtorEq] at h
    exact keys h (List.prefix_refl _)
  | copy _ h' =>
    cases hc : st.get h' <;> simp only [Obj.eff, hc, reduceCtorEq] at h
    exact keys h (List.prefix_refl _)
  | use h' _ | free h' _ | slice _ h' _ =>
    rcases hc : st.get h' with _ | (c | g | x) <;> simp only [Obj.eff, hc, reduceCtorEq] at h
    all_goals exact keys h (List.prefix_refl _)
  | next h' _ =>
    rcases hc : st.get h' with _ | (c | g | x) <;> simp only [Obj.eff, hc, reduceCtorEq] at h
    · exact keys h (List.prefix_refl _)
    · split at h <;> exact keys h (List.prefix_refl _)
  | getRoute h' _ dst =>
    rcases hc : st.get h' with _ | (c | g | x) <;> simp only [Obj.eff, hc, reduceCtorEq] at h
    split at h
    · exact keys h (List.prefix_refl _)
    · exact keys h ⟨[dst], rfl⟩
  | freeRoute h' rh | useRoute h' rh =>
    simp only [Obj.eff] at h
    split at h
    · exact keys h (List.prefix_refl _)
    · cases h

/-- deep copies are handles of their own: equal to the original when made (`copy_equal`), independent afterwards -/
theorem step_independent (w : World) (st st' : Store Obj) (op : Op) (out : Out)
    (h : Obj.step w st op = .ok (st', out)) (k : Nat) (hk : k ∉ op.targets) : st'.get k = st.get k := by
  unfold Obj.step at h
  cases heff : Obj.eff w st op with
  | error e => rw [heff] at h; cases h
  | ok p =>
    rw [heff] at h
    cases h
    exact write_get_other _ st k fun x hx e =>
      hk (e ▸ (eff_writes_targets w st op _ _ heff).subset (List.mem_map_of_mem hx))

theorem copy_equal (w : World) (st st' : Store Obj) (dst k : Nat) (out : Out)
    (h : Obj.step w st (.copy dst k) = .ok (st', out)) : st'.get dst = st.get k := by
  unfold Obj.step at h
  cases hk : st.get k with
  | none => simp only [Obj.eff, hk] at h; cases h
  | some o =>
    simp only [Obj.eff, hk] at h
    cases h
    exact (get_write1 st dst (some o) dst).trans (if_pos rfl)

def Obj.run (w : World) (st : Store Obj) : List Op → Except String (Store Obj × List Out)
  | [] => .ok (st, [])
  | op :: ops =>
    match Obj.step w st op with
    | .error e => .error e
    | .ok (st1, o) =>
      match Obj.run w st1 ops with
      | .error e => .error e
      | .ok (st2, os) => .ok (st2, o :: os)

def RObj.run (w : World) (rst : Store RObj) : List Op → Option (Store RObj × List Out)
  | [] => some (rst, [])
  | op :: ops =>
    match RObj.step w rst op with
    | none => none
    | some (r1, o) =>
      match RObj.run w r1 ops with
      | none => none
      | some (r2, os) => some (r2, o :: os)

theorem machine_step_refines {w : World} {st : Store Obj} {rst : Store RObj} (hs : StoreSim w st rst) (op : Op)
    {rst' : Store RObj} {rout : Out} (hr : RObj.step w rst op = some (rst', rout))
    (hadm : rout ≠ Out.inadmissible) :
    ∃ st', Obj.step w st op = .ok (st', rout) ∧ StoreSim w st' rst' := by
  obtain ⟨⟨rws, ro⟩, he, e⟩ := Option.map_eq_some_iff.mp hr
  cases e
  obtain ⟨ws, hws, hsim⟩ := eff_refines hs op he hadm
  exact ⟨st.write ws, by simp only [Obj.step, hws], write_sim hsim hs⟩

/-- **model(impl) = reference model**; "the reference accepts the sequence" means: every `insert_at` index lies
    between the depot ends and every `next` answer is admissible -/
theorem machine_run_refines {w : World} (ops : List Op) {st : Store Obj} {rst : Store RObj}
    (hs : StoreSim w st rst) {rst' : Store RObj} {outs : List Out}
    (hr : RObj.run w rst ops = some (rst', outs)) (hadm : Out.inadmissible ∉ outs) :
    ∃ st', Obj.run w st ops = .ok (st', outs) ∧ StoreSim w st' rst' := by
  induction ops generalizing st rst outs with
  | nil =>
    cases hr
    exact ⟨st, rfl, hs⟩
  | cons op ops ih =>
    simp only [RObj.run] at hr
    split at hr
    · cases hr
    next r1 o h1 =>
      split at hr
      · cases hr
      next r2 os h2 =>
        cases hr
        obtain ⟨st1, hst1, hs1⟩ := machine_step_refines hs op h1 fun e => hadm (e ▸ List.mem_cons_self)
        obtain ⟨st2, hst2, hs2⟩ := ih hs1 h2 fun e => hadm (List.mem_cons_of_mem _ e)
        exact ⟨st2, by simp only [Obj.run, hst1, hst2], hs2⟩

theorem machine_observations_agree {w : World} {st : Store Obj} {rst : Store RObj} (hs : StoreSim w st rst)
    (n h : Nat) : (st.get h).map (Obj.observe n) = (rst.get h).map (RObj.observe n) := by
  have := hs h
  cases h1 : st.get h <;> cases h2 : rst.get h <;> rw [h1, h2] at this
  · rfl
  · cases this
  · cases this
  · exact congrArg some (observe_of_objsim this n)

theorem machine_refines_from_empty (w : World) (ops : List Op) {rst' : Store RObj} {outs : List Out}
    (hr : RObj.run w [] ops = some (rst', outs)) (hadm : Out.inadmissible ∉ outs) :
    ∃ st', Obj.run w [] ops = .ok (st', outs) ∧
      ∀ h, (st'.get h).map (Obj.observe w.nJobs) = (rst'.get h).map (RObj.observe w.nJobs) := by
  obtain ⟨st', h1, h2⟩ := machine_run_refines ops (st := []) (rst := []) (fun _ => trivial) hr hadm
  exact ⟨st', h1, fun h => machine_observations_agree h2 w.nJobs h⟩

/-- non-vacuity: the reference accepts a sequence with copies, a registry context, a route taken, filled,
    returned and taken again -/
example : (RObj.run { nJobs := 3, closed := [true, false], group := [4, 4] } []
    [.newRctx 0, .getRoute 0 1 1, .insLast 1 2 0, .copy 2 1, .insAt 1 0 0 1, .rem 2 2, .getRoute 0 1 3,
     .freeRoute 0 1, .getRoute 0 1 3, .newReg 5, .use 5 0, .next 5 [1], .slice 4 0 [1]]).map Prod.snd
    = some [.unit, .bool true, .unit, .unit, .unit, .bool true, .bool false, .bool true, .bool true,
            .unit, .bool true, .actors [1], .unit] := rfl

end C14
