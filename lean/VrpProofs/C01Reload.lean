import VrpModel.C01Reload

/-!
# The repaired clean-up of trivial reloads keeps every shared resource within its capacity (S62)
-/

namespace VrpProofs.C01Reload
open VrpModel.C01Reload

theorem drawn_append (r : Nat) (xs ys : List Iv) : drawn r (xs ++ ys) = drawn r xs + drawn r ys := by
  induction xs with
  | nil => exact (Int.zero_add _).symm
  | cons x xs ih => rw [List.cons_append, drawn, drawn, ih, Int.add_assoc]

/-- what the merged solution draws: the deliveries of `b` leave `b`'s resource and arrive at `a`'s -/
theorem drawn_merge_le (r : Nat) (l rest : List Iv) (a b : Iv) (hb : 0 ≤ b.deliv) :
    drawn r (l ++ mergeIv a b :: rest)
      ≤ drawn r (l ++ a :: b :: rest) + (if a.res = some r then b.deliv else 0) := by
  simp only [drawn_append, drawn, mergeIv]
  -- `hb` is needed where `b.res = some r`: `b`'s own resource gives up `b.deliv`
  lia

/-- **S62, the repaired rule**, wherever the two intervals stand among the intervals of all tours -/
theorem merge_keeps_within (cap : Nat → Int) (l rest : List Iv) (a b : Iv)
    (h : Within cap (l ++ a :: b :: rest)) (hb : 0 ≤ b.deliv)
    (hok : mergeOk cap (l ++ a :: b :: rest) a b = true) :
    Within cap (l ++ mergeIv a b :: rest) := by
  intro r
  refine Int.le_trans (drawn_merge_le r l rest a b hb) ?_
  by_cases ha : a.res = some r
  · simp only [mergeOk, ha, decide_eq_true_eq] at hok
    rw [if_pos ha]
    exact Int.add_le_of_le_sub_left hok
  · rw [if_neg ha, Int.add_zero]
    exact h r

example : mergeOk (fun _ => 6) [⟨some 0, 5⟩, ⟨none, 1⟩] ⟨some 0, 5⟩ ⟨none, 1⟩ = true := by decide
/-- the witness of S62: 5 of 5 units drawn, one more unit behind a plain reload -/
example : mergeOk (fun _ => 5) [⟨some 0, 5⟩, ⟨none, 1⟩] ⟨some 0, 5⟩ ⟨none, 1⟩ = false := by decide

/-- **S62**: the rule /repo had before the repair allows a merge that overdraws -/
theorem broken_rule_overdraws :
    ∃ (cap : Nat → Int) (a b : Iv),
      Within cap [a, b] ∧ 0 ≤ b.deliv ∧ mergeOkBroken cap [a, b] a b = true ∧ ¬ Within cap [mergeIv a b] := by
  refine ⟨fun _ => 5, ⟨some 0, 5⟩, ⟨none, 1⟩, fun r => ?_, by decide, rfl, fun h => absurd (h 0) (by decide)⟩
  simp only [drawn, reduceCtorEq, if_false]
  split <;> decide

theorem merge_into_plain (cap : Nat → Int) (l rest : List Iv) (a b : Iv)
    (h : Within cap (l ++ a :: b :: rest)) (hb : 0 ≤ b.deliv) (ha : a.res = none) :
    Within cap (l ++ mergeIv a b :: rest) :=
  merge_keeps_within cap l rest a b h hb (by simp [mergeOk, ha])

set_option linter.unusedVariables false in
/-- **The clause of the code implies the rule.** `hst` is the invariant of `update_resource_consumption` (the stored amount
is capacity minus the demand of all tours) and of `prevent_resource_consumption` (zero). -/
theorem clause_sound (cap : Nat → Int) (all : List Iv) (stale : Bool) (avail : Option Int) (a b : Iv)
    (hb : 0 ≤ b.deliv) (hall : ∀ r, drawn r all ≤ cap r)
    (hst : ∀ r, a.res = some r → stale = false → ∃ v, avail = some v ∧ v ≤ cap r - drawn r all)
    (hc : clause stale avail a b = true) : mergeOk cap all a b = true := by
  cases hres : a.res with
  | none => simp only [mergeOk, hres]
  | some r =>
    simp only [mergeOk, clause, hres, decide_eq_true_eq] at hc ⊢
    cases stale with
    | true =>
      rw [if_pos rfl, decide_eq_true_eq] at hc
      exact Int.le_trans hc (Int.sub_nonneg_of_le (hall r))
    | false =>
      obtain ⟨v, rfl, hle⟩ := hst r hres rfl
      rw [if_neg Bool.false_ne_true, decide_eq_true_eq] at hc
      exact Int.le_trans hc hle

theorem clause_keeps_within (cap : Nat → Int) (l rest : List Iv) (stale : Bool) (avail : Option Int) (a b : Iv)
    (h : Within cap (l ++ a :: b :: rest)) (hb : 0 ≤ b.deliv)
    (hst : ∀ r, a.res = some r → stale = false → ∃ v, avail = some v ∧ v ≤ cap r - drawn r (l ++ a :: b :: rest))
    (hc : clause stale avail a b = true) :
    Within cap (l ++ mergeIv a b :: rest) :=
  merge_keeps_within cap l rest a b h hb (clause_sound cap _ stale avail a b hb h hst hc)

example : clause false (some 1) ⟨some 0, 5⟩ ⟨none, 1⟩ = true ∧ clause true (some 1) ⟨some 0, 5⟩ ⟨none, 1⟩ = false := by decide

/-- the state lookup /repo had before repair S62 gave `none` whatever was stored: the clause holds although nothing is left -/
example : clause false none ⟨some 0, 5⟩ ⟨none, 1⟩ = true := by decide

/-- one clean-up step somewhere in the solution: a reload between two neighbouring intervals is dropped under the rule -/
inductive Step (cap : Nat → Int) : List Iv → List Iv → Prop
  | drop (l rest : List Iv) (a b : Iv) (hb : 0 ≤ b.deliv)
      (hok : mergeOk cap (l ++ a :: b :: rest) a b = true) :
      Step cap (l ++ a :: b :: rest) (l ++ mergeIv a b :: rest)

inductive Steps (cap : Nat → Int) : List Iv → List Iv → Prop
  | refl (ivs : List Iv) : Steps cap ivs ivs
  | tail {x y z : List Iv} : Steps cap x y → Step cap y z → Steps cap x z

theorem step_keeps_within (cap : Nat → Int) {x y : List Iv} (h : Step cap x y) (hw : Within cap x) : Within cap y := by
  cases h with
  | drop l rest a b hb hok => exact merge_keeps_within cap l rest a b hw hb hok

theorem steps_keep_within (cap : Nat → Int) {x y : List Iv} (h : Steps cap x y) (hw : Within cap x) : Within cap y := by
  induction h with
  | refl => exact hw
  | tail _ hstep ih => exact step_keeps_within cap hstep ih

def total : List Iv → Int
  | [] => 0
  | iv :: rest => iv.deliv + total rest

theorem total_append (xs ys : List Iv) : total (xs ++ ys) = total xs + total ys := by
  induction xs with
  | nil => exact (Int.zero_add _).symm
  | cons x xs ih => rw [List.cons_append, total, total, ih, Int.add_assoc]

/-- a clean-up step loses no delivery: what is served stays served (the C02 side of the step) -/
theorem step_keeps_total (cap : Nat → Int) {x y : List Iv} (h : Step cap x y) : total y = total x := by
  cases h with
  | drop l rest a b hb hok => simp only [total_append, total, mergeIv, Int.add_assoc]

theorem steps_keep_total (cap : Nat → Int) {x y : List Iv} (h : Steps cap x y) : total y = total x := by
  induction h with
  | refl => rfl
  | tail _ hstep ih => rw [step_keeps_total cap hstep, ih]

/-- every step removes exactly one interval: the clean-up terminates after at most `length - 1` steps -/
theorem step_length (cap : Nat → Int) {x y : List Iv} (h : Step cap x y) : y.length + 1 = x.length := by
  cases h with
  | drop l rest a b hb hok => simp +arith only [List.length_append, List.length_cons]

example : Step (fun _ => 6) ([] ++ ⟨some 0, 5⟩ :: ⟨none, 1⟩ :: []) ([] ++ mergeIv ⟨some 0, 5⟩ ⟨none, 1⟩ :: []) :=
  Step.drop [] [] ⟨some 0, 5⟩ ⟨none, 1⟩ (by decide) (by decide)

end VrpProofs.C01Reload
