import VrpModel.C15
/-!
# C15 — the result of parallel evaluation does not depend on how the work is split

For EVERY split tree (every thread count, pool layout, steal order that rayon's `fold().reduce()`
contract allows) the cost of the chosen insertion equals the minimum of a sequential scan — provided
the pruning is sound (`PruneSound`: the route-level cost is a lower bound of the full cost, which holds
when activity-level cost estimates are non-negative). Without that hypothesis the statement is false
(`prune_unsound_witness`), which is the reproduced deviation S9 (non-metric distances).
-/

namespace C15

variable {κ : Type} (le : κ → κ → Bool)

/-- the cost comparison is a linear order (`intLinOrd`; `costLe`, which the driver uses on cost vectors, has no instance) -/
structure LinOrd : Prop where
  total : ∀ a b, le a b = true ∨ le b a = true
  trans : ∀ a b c, le a b = true → le b c = true → le a c = true
  antisymm : ∀ a b, le a b = true → le b a = true → a = b

variable {le}

theorem best_none_left (a : Option κ) : best le none a = a := by cases a <;> rfl
theorem best_none_right (a : Option κ) : best le a none = a := by cases a <;> rfl

theorem le_refl' (h : LinOrd le) (a : κ) : le a a = true :=
  (h.total a a).elim id id

theorem best_of_le {x y : κ} (hxy : le x y = true) : best le (some x) (some y) = some x := if_pos hxy
theorem best_of_not_le {x y : κ} (hxy : le x y = false) : best le (some x) (some y) = some y :=
  if_neg (hxy ▸ Bool.false_ne_true)

theorem best_assoc (h : LinOrd le) (a b c : Option κ) :
    best le (best le a b) c = best le a (best le b c) := by
  cases a with
  | none => rw [best_none_left, best_none_left]
  | some x =>
  cases b with
  | none => rw [best_none_left, best_none_right]
  | some y =>
  cases c with
  | none => rw [best_none_right, best_none_right]
  | some z =>
    cases hxy : le x y <;> cases hyz : le y z
    · -- `z < y < x`
      have hyx := (h.total x y).resolve_left (hxy ▸ Bool.false_ne_true)
      have hxz := Bool.eq_false_iff.mpr fun hc => Bool.false_ne_true (hyz ▸ h.trans y x z hyx hc)
      rw [best_of_not_le hxy, best_of_not_le hyz, best_of_not_le hxz]
    · rw [best_of_not_le hxy, best_of_le hyz, best_of_not_le hxy]
    · rw [best_of_le hxy, best_of_not_le hyz]
    · rw [best_of_le hxy, best_of_le hyz, best_of_le hxy, best_of_le (h.trans x y z hxy hyz)]

theorem foldl_best_init (h : LinOrd le) (i : Option κ) (xs : List (Option κ)) :
    xs.foldl (best le) i = best le i (xs.foldl (best le) none) := by
  induction xs generalizing i with
  | nil => exact (best_none_right i).symm
  | cons x xs ih => rw [List.foldl_cons, List.foldl_cons, ih, ih (best le none x), best_none_left, best_assoc h]

theorem minOpt_append (h : LinOrd le) (xs ys : List (Option κ)) :
    minOpt le (xs ++ ys) = best le (minOpt le xs) (minOpt le ys) := by
  unfold minOpt
  rw [List.foldl_append, foldl_best_init h]

theorem foldReduce_eq_minOpt {α : Type} (h : LinOrd le) {f : Option κ → α → Option κ} (ev : α → Option κ)
    (s : Split) {xs : List α} (hf : ∀ x ∈ xs, ∀ acc, f acc x = best le acc (ev x)) :
    foldReduce none f (best le) s xs = minOpt le (xs.map ev) := by
  induction s generalizing xs with
  | leaf =>
    rw [foldReduce, minOpt, List.foldl_map]
    generalize (none : Option κ) = acc
    induction xs generalizing acc with
    | nil => rfl
    | cons x xs ih =>
      rw [List.foldl_cons, List.foldl_cons, hf x List.mem_cons_self]
      exact ih (fun y hy => hf y (List.mem_cons_of_mem _ hy)) _
  | node k l r ihl ihr =>
    rw [foldReduce, ihl fun x hx => hf x (List.mem_of_mem_take hx), ihr fun x hx => hf x (List.mem_of_mem_drop hx),
      ← minOpt_append h, ← List.map_append, List.take_append_drop]
  | withId s ih => rw [foldReduce, ih hf, best_none_left]

theorem foldReduce_split_invariant {α : Type} (h : LinOrd le) (ev : α → Option κ) (s : Split) (xs : List α) :
    foldReduce none (fun acc x => best le acc (ev x)) (best le) s xs = minOpt le (xs.map ev) :=
  foldReduce_eq_minOpt h ev s fun _ _ _ => rfl

/-- the route-level cost never exceeds the full cost of an insertion into that route (true when the
    activity-level estimates are non-negative: `full = routeCost + activity part`) -/
def PruneSound (it : Item κ) : Prop := ∀ c, it.full = some c → le it.routeCost c = true

theorem stepPruned_eq_best (h : LinOrd le) (alt : Option κ) (it : Item κ) (hp : PruneSound (le := le) it) :
    stepPruned le alt it = best le alt it.full := by
  cases alt with
  | none => exact (best_none_left _).symm
  | some a =>
    simp only [stepPruned]
    cases hf : it.full with
    | none => exact ite_self _
    | some c =>
      by_cases hpr : (le a it.routeCost && !le it.routeCost a) = true
      · rw [if_pos hpr, best_of_le (h.trans a _ c (Bool.and_eq_true _ _ ▸ hpr).1 (hp c hf))]
      · exact if_neg hpr

/-- **C15 (model)**: `evaluate_all` with the `alternative` pruning of `eval_job_insertion_in_route` -/
theorem evaluate_all_split_invariant (h : LinOrd le) (s : Split) (items : List (Item κ))
    (hp : ∀ it ∈ items, PruneSound (le := le) it) :
    foldReduce none (stepPruned le) (best le) s items = minOpt le (items.map (·.full)) :=
  foldReduce_eq_minOpt h (·.full) s fun it hit acc => stepPruned_eq_best h acc it (hp it hit)

theorem intLinOrd : LinOrd (fun (a b : Int) => decide (a ≤ b)) :=
  ⟨fun a b => by simpa only [decide_eq_true_eq] using Int.le_total a b,
   fun a b c => by simpa only [decide_eq_true_eq] using Int.le_trans,
   fun a b => by simpa only [decide_eq_true_eq] using Int.le_antisymm⟩

/-- **without `PruneSound` the result depends on the split** (deviation S9): the same two items give 3
    in one sequential chunk and the true minimum 2 when each item is its own chunk -/
theorem prune_unsound_witness :
    ∃ (items : List (Item Int)),
      foldReduce none (stepPruned (fun a b => decide (a ≤ b))) (best (fun a b => decide (a ≤ b))) .leaf items = some 3 ∧
      foldReduce none (stepPruned (fun a b => decide (a ≤ b))) (best (fun a b => decide (a ≤ b)))
        (.node 1 .leaf .leaf) items = some 2 := by
  refine ⟨[⟨some 3, 3⟩, ⟨some 2, 5⟩], ?_, ?_⟩ <;> decide

example : foldReduce none (stepPruned (fun (a b : Int) => decide (a ≤ b))) (best (fun a b => decide (a ≤ b)))
    (.node 2 (.withId .leaf) (.node 0 .leaf .leaf)) [⟨some 4, 1⟩, ⟨none, 0⟩, ⟨some 2, 2⟩] = some 2 := by decide

end C15
