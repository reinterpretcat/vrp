import VrpModel.C03
/-!
# C03 — reported statistics are what a replay from the visiting order gives

`C03.foldLeg` is the statistic part of `C03W.stepAct` with the schedule recomputed from the legs (`dep' = max arr s + dur`), so
the timing split holds without a hypothesis; `C03W.stepAct` takes arrival and departure from the dumped route and needs `schedOk`
for the same facts (`C03W.fold_split`, `C03W.fold_cost`). No driver runs `VrpModel.C03`: the model tied to the code is
`VrpModel.C03W`, which also has the reserved times and the commute that are out of this one.
Out of model besides: the `as i64` truncation of non-integral values (integer data), f64.
-/
namespace C03
open Route

variable (t d : Nat → Nat → Int) (cd ct : Int)

def acts (ws : List WAct) : List Act := ws.map (·.act)

theorem acts_cons (a : WAct) (r : List WAct) : acts (a :: r) = a.act :: acts r := rfl

theorem foldLeg_duration (ws : List WAct) (l : Nat) (dep : Int) (st : WStat) :
    (foldLeg t d cd ct l dep st ws).duration = st.duration + ((after t (acts ws) l dep).2 - dep) := by
  induction ws generalizing l dep st with
  | nil =>
    show st.duration = st.duration + (dep - dep)
    rw [Int.sub_self, Int.add_zero]
  | cons a r ih =>
    simp only [foldLeg, ih, acts_cons, after, depOf]
    lia

theorem foldLeg_distance (ws : List WAct) (l : Nat) (dep : Int) (st : WStat) :
    (foldLeg t d cd ct l dep st ws).distance = st.distance + totalDist d (acts ws) l := by
  induction ws generalizing l dep st with
  | nil => exact (Int.add_zero _).symm
  | cons a r ih => simp only [foldLeg, ih, acts_cons, totalDist, Int.add_assoc]

theorem foldLeg_timing_split (ws : List WAct) (l : Nat) (dep : Int) (st : WStat)
    (h : st.driving + st.serving + st.waiting + st.breakT = st.duration) :
    let r := foldLeg t d cd ct l dep st ws
    r.driving + r.serving + r.waiting + r.breakT = r.duration := by
  induction ws generalizing l dep st with
  | nil => exact h
  | cons a r ih =>
    rw [foldLeg]
    apply ih
    dsimp only
    lia

theorem foldLeg_cost (ws : List WAct) (l : Nat) (dep : Int) (st : WStat) :
    (foldLeg t d cd ct l dep st ws).cost
      = st.cost + totalDist d (acts ws) l * cd + ((after t (acts ws) l dep).2 - dep) * ct := by
  induction ws generalizing l dep st with
  | nil =>
    show st.cost = st.cost + 0 * cd + (dep - dep) * ct
    rw [Int.sub_self, Int.zero_mul, Int.zero_mul, Int.add_zero, Int.add_zero]
  | cons a r ih =>
    simp only [foldLeg, ih, acts_cons, totalDist, after, depOf, Int.add_mul, Int.sub_mul]
    lia

/-- **C03 (model)**: the statistic the writer reports for a tour is the replay of its visiting order:
    `duration = last departure - first departure`, `distance = sum of leg distances`,
    `driving + serving + waiting + break = duration`, `cost = fixed + distance*c_d + duration*c_t` -/
theorem tourStat_is_replay (fixed : Int) (startLoc : Nat) (dep : Int) (ws : List WAct) :
    let st := tourStat t d fixed cd ct startLoc dep ws
    st.duration = (after t (acts ws) startLoc dep).2 - dep ∧
    st.distance = totalDist d (acts ws) startLoc ∧
    st.driving + st.serving + st.waiting + st.breakT = st.duration ∧
    st.cost = fixed + st.distance * cd + st.duration * ct := by
  simp only [tourStat]
  have hdur := (foldLeg_duration t d cd ct ws startLoc dep WStat.zero).trans (Int.zero_add _)
  have hdist := (foldLeg_distance t d cd ct ws startLoc dep WStat.zero).trans (Int.zero_add _)
  refine ⟨hdur, hdist, foldLeg_timing_split t d cd ct ws startLoc dep WStat.zero rfl, ?_⟩
  rw [hdur, hdist, foldLeg_cost]
  show 0 + _ + _ + fixed = _
  rw [Int.zero_add, Int.add_comm, Int.add_assoc]

theorem foldl_addStat (π : WStat → Int) (hπ : ∀ a b, π (addStat a b) = π a + π b)
    (acc : WStat) (sts : List WStat) :
    π (sts.foldl addStat acc) = π acc + (sts.map π).sum := by
  induction sts generalizing acc with
  | nil => exact (Int.add_zero _).symm
  | cons x r ih => rw [List.foldl_cons, ih, hπ, List.map_cons, List.sum_cons, Int.add_assoc]

theorem overall_is_sum (sts : List WStat) :
    (sts.foldl addStat WStat.zero).cost = (sts.map (·.cost)).sum ∧
    (sts.foldl addStat WStat.zero).distance = (sts.map (·.distance)).sum ∧
    (sts.foldl addStat WStat.zero).duration = (sts.map (·.duration)).sum :=
  ⟨(foldl_addStat (·.cost) (fun _ _ => rfl) _ sts).trans (Int.zero_add _),
   (foldl_addStat (·.distance) (fun _ _ => rfl) _ sts).trans (Int.zero_add _),
   (foldl_addStat (·.duration) (fun _ _ => rfl) _ sts).trans (Int.zero_add _)⟩

/-! ### non-vacuity: a tour with waiting and a break -/
example :
    tourStat (fun a b => if a = b then 0 else 5) (fun a b => if a = b then 0 else 7) 10 2 3 0 0
      [⟨{ loc := 1, s := 10, e := 20, dur := 2 }, false⟩, ⟨{ loc := 1, s := 0, e := 50, dur := 4 }, true⟩,
       ⟨{ loc := 0, s := 0, e := 99, dur := 0 }, false⟩]
    == { cost := 10 + 14 * 2 + 21 * 3, distance := 14, duration := 21, driving := 10, serving := 2, waiting := 5, breakT := 4 } := by
  decide

end C03
