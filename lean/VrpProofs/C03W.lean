import VrpModel.C03W
import VrpProofs.C03U
/-!
# C03 — the tour the writer renders meets the reader's specification

`C03W.writeTour` mirrors `solution_writer.rs::create_tour` (tied to the real writer by the route-dump correspondence of
`./check C03`). Reload intervals only move loads, which the specification `specTour` does not read: the fold over the
intervals is related (`Sim`) to one fold over all activities, and the clauses are proved for that fold. Then the break writer
(`writeTourX`, reserved times written as breaks; how the core schedules around them is not modelled) and the commute-aware
writer (`writeTourC`). Out of model: f64 rounding (integer data).
-/
namespace C03W

def written (a : RAct) : WActivity :=
  { jobId := actJobId a, type := actType a, loc := some a.loc, time := some (max a.arr a.tws, max a.arr a.tws + a.dur),
    tag := actTag a }

@[simp] theorem stepAct_lastLoc (v : Veh) (s : St) (a : RAct) : (stepAct v s a).lastLoc = a.loc := by
  unfold stepAct; cases s.lastLoc != a.loc <;> rfl
@[simp] theorem stepAct_lastDep (v : Veh) (s : St) (a : RAct) : (stepAct v s a).lastDep = a.dep := by
  unfold stepAct; cases s.lastLoc != a.loc <;> rfl
@[simp] theorem stepAct_stat (v : Veh) (s : St) (a : RAct) :
    (stepAct v s a).stat
      = { cost := s.stat.cost + (a.dur * v.cs + (a.legDist * v.cd + a.legDur * v.ct) + (max a.arr a.tws - a.arr) * v.cw),
          distance := s.stat.distance + a.legDist, duration := s.stat.duration + (a.dep - s.lastDep),
          driving := s.stat.driving + a.legDur, serving := s.stat.serving + (if actType a == "break" then 0 else a.dur),
          waiting := s.stat.waiting + (max a.arr a.tws - a.arr),
          breakT := s.stat.breakT + (if actType a == "break" then a.dur else 0) } := by
  unfold stepAct; cases s.lastLoc != a.loc <;> rfl

theorem stepAct_same (v : Veh) {s : St} {a : RAct} (h : s.lastLoc = a.loc) :
    (stepAct v s a).done = s.done ∧ (stepAct v s a).cur =
      { s.cur with departure := a.dep, load := asVec (stepAct v s a).load, activities := s.cur.activities ++ [written a] } := by
  have hb : (s.lastLoc != a.loc) = false := by rw [h]; exact bne_self_eq_false _
  simp only [stepAct, hb, Bool.false_eq_true, if_false]
  exact ⟨trivial, rfl⟩

theorem stepAct_new (v : Veh) {s : St} {a : RAct} (h : s.lastLoc ≠ a.loc) :
    (stepAct v s a).done = s.done ++ [s.cur] ∧ (stepAct v s a).cur =
      { loc := a.loc, arrival := a.arr, departure := a.dep, distance := s.stat.distance + a.legDist,
        load := asVec (stepAct v s a).load, activities := [written a] } := by
  have hb : (s.lastLoc != a.loc) = true := bne_iff_ne.mpr h
  simp only [stepAct, hb, if_true]
  exact ⟨trivial, rfl⟩

def eraseL (s : WStop) : WStop := { s with load := [] }

/-- two fold states that differ in loads only (`St.load` and the loads written into the stops) -/
structure Sim (s s' : St) : Prop where
  stat : s.stat = s'.stat
  loc : s.lastLoc = s'.lastLoc
  dep : s.lastDep = s'.lastDep
  done : s.done.map eraseL = s'.done.map eraseL
  cur : eraseL s.cur = eraseL s'.cur

theorem Sim.rfl' (s : St) : Sim s s := ⟨rfl, rfl, rfl, rfl, rfl⟩

theorem Sim.trans {a b c : St} (h1 : Sim a b) (h2 : Sim b c) : Sim a c :=
  ⟨h1.stat.trans h2.stat, h1.loc.trans h2.loc, h1.dep.trans h2.dep, h1.done.trans h2.done, h1.cur.trans h2.cur⟩

theorem Sim.symm {a b : St} (h : Sim a b) : Sim b a := ⟨h.stat.symm, h.loc.symm, h.dep.symm, h.done.symm, h.cur.symm⟩

theorem sim_setLoad (s : St) (l : Load) : Sim { s with load := l } s := ⟨rfl, rfl, rfl, rfl, rfl⟩

theorem stepAct_sim (v : Veh) {s s' : St} (h : Sim s s') (a : RAct) : Sim (stepAct v s a) (stepAct v s' a) := by
  obtain ⟨hs, hl, hd, hdone, hcur⟩ := h
  refine ⟨by rw [stepAct_stat, stepAct_stat, hs, hd], by rw [stepAct_lastLoc, stepAct_lastLoc],
    by rw [stepAct_lastDep, stepAct_lastDep], ?_, ?_⟩ <;> by_cases hn : s.lastLoc = a.loc
  · rw [(stepAct_same v hn).1, (stepAct_same v (hl ▸ hn)).1, hdone]
  · rw [(stepAct_new v hn).1, (stepAct_new v (hl ▸ hn)).1, List.map_append, List.map_append, hdone, List.map_singleton,
      List.map_singleton, hcur]
  · rw [(stepAct_same v hn).2, (stepAct_same v (hl ▸ hn)).2]
    exact congrArg (fun st : WStop => { st with departure := a.dep, activities := st.activities ++ [written a] }) hcur
  · rw [(stepAct_new v hn).2, (stepAct_new v (hl ▸ hn)).2, hs]
    rfl

theorem foldl_stepAct_sim (v : Veh) (l : List RAct) {s s' : St} (h : Sim s s') :
    Sim (l.foldl (stepAct v) s) (l.foldl (stepAct v) s') :=
  List.foldl_rel h fun a _ _ _ hc => stepAct_sim v hc a

theorem stepSeg_sim (v : Veh) {s s' : St} (h : Sim s s') (seg : List RAct) :
    Sim (stepSeg v s seg) (seg.foldl (stepAct v) s') := by
  unfold stepSeg
  exact (sim_setLoad _ _).trans (foldl_stepAct_sim v seg ((sim_setLoad s _).trans h))

theorem cutGo_first {α : Type} (p : α → Bool) (l cur : List α) :
    ∃ t later, cutGo p l cur = (cur.reverse ++ t) :: later ∧ t ++ later.flatten = l := by
  induction l generalizing cur with
  | nil => exact ⟨[], [], by rw [cutGo, List.append_nil], rfl⟩
  | cons a r ih =>
    unfold cutGo
    split
    · obtain ⟨t, later, h1, rfl⟩ := ih [a]
      exact ⟨[], _, by rw [h1, List.append_nil], rfl⟩
    · obtain ⟨t, later, h1, rfl⟩ := ih (a :: cur)
      exact ⟨a :: t, later, by rw [h1, List.reverse_cons, List.append_assoc]; rfl, rfl⟩

theorem cutGo_map {α β : Type} (f : α → β) (p : β → Bool) (l cur : List α) :
    cutGo p (l.map f) (cur.map f) = (cutGo (fun a => p (f a)) l cur).map (·.map f) := by
  induction l generalizing cur with
  | nil => simp [cutGo]
  | cons a r ih =>
    simp only [List.map_cons, cutGo, List.isEmpty_map]
    split
    · rw [List.map_cons, List.map_reverse]
      exact congrArg _ (ih [a])
    · exact ih (a :: cur)

/-- the fold without any interval structure: what `foldRoute` computes up to loads -/
def plainFold (v : Veh) (start : RAct) (rest : List RAct) : St :=
  rest.foldl (stepAct v) (initSt start rest.head? [])

theorem foldRoute_sim (v : Veh) (start : RAct) (rest : List RAct) :
    ∃ s, foldRoute v (start :: rest) = some s ∧ Sim s (plainFold v start rest) := by
  obtain ⟨t, later, h1, rfl⟩ := cutGo_first isReload rest [start]
  have hc : cutBefore isReload (start :: (t ++ later.flatten)) = (start :: t) :: later := by
    -- `cutGo` cuts only in front of a non-empty segment: the start activity opens no interval
    simp [cutBefore, cutGo, h1]
  refine ⟨_, by simp only [foldRoute, hc]; rfl, ?_⟩
  rw [plainFold, List.foldl_append, List.foldl_flatten]
  exact List.foldl_rel ((sim_setLoad _ _).trans (foldl_stepAct_sim v t ⟨rfl, rfl, rfl, rfl, rfl⟩))
    fun seg _ _ _ hc => stepSeg_sim v hc seg

theorem fold_sum (v : Veh) (g : WStat → Int) (d : RAct → Int) (hstep : ∀ s a, g (stepAct v s a).stat = g s.stat + d a)
    (l : List RAct) (s : St) : g (l.foldl (stepAct v) s).stat = l.foldl (fun acc a => acc + d a) (g s.stat) :=
  (List.foldl_hom (fun s => g s.stat) fun s a => (hstep s a).symm).symm

theorem fold_sched_inv (v : Veh) (q : WStat → Int)
    (hq : ∀ s a, a.arr = s.lastDep + a.legDur → a.dep = max a.arr a.tws + a.dur → q (stepAct v s a).stat = q s.stat)
    (l : List RAct) (s : St) (h : schedOkFrom s.lastDep l = true) : q (l.foldl (stepAct v) s).stat = q s.stat := by
  induction l generalizing s with
  | nil => rfl
  | cons a r ih =>
    simp only [schedOkFrom, Bool.and_eq_true, beq_iff_eq] at h
    exact (ih (stepAct v s a) (by rw [stepAct_lastDep]; exact h.2)).trans (hq s a h.1.1 h.1.2)

theorem fold_duration (v : Veh) (l : List RAct) (s : St) :
    (l.foldl (stepAct v) s).stat.duration = s.stat.duration + (((l.getLast?.map (·.dep)).getD s.lastDep) - s.lastDep)
    ∧ (l.foldl (stepAct v) s).lastDep = (l.getLast?.map (·.dep)).getD s.lastDep := by
  induction l generalizing s with
  | nil => exact ⟨by show _ = _ + (s.lastDep - s.lastDep); rw [Int.sub_self, Int.add_zero]; rfl, rfl⟩
  | cons a r ih =>
    obtain ⟨h1, h2⟩ := ih (stepAct v s a)
    -- the last departure of `a :: r` is the last departure of `r` read from `a` onwards
    rw [List.foldl_cons, h1, h2, stepAct_stat, stepAct_lastDep, List.getLast?_cons, Option.map_some, Option.getD_some,
      Option.getD_map RAct.dep a]
    exact ⟨by show _ + (a.dep - s.lastDep) + (_ - a.dep) = _; lia, rfl⟩

/-- under a consistent schedule the four time buckets add up to the duration -/
theorem fold_split (v : Veh) (l : List RAct) (s : St) (h : schedOkFrom s.lastDep l = true) :
    let r := (l.foldl (stepAct v) s).stat
    r.driving + r.serving + r.waiting + r.breakT - r.duration
      = s.stat.driving + s.stat.serving + s.stat.waiting + s.stat.breakT - s.stat.duration := by
  exact fold_sched_inv v (fun r => r.driving + r.serving + r.waiting + r.breakT - r.duration)
    (fun s a h1 h2 => by simp only [stepAct_stat, h2, h1]; lia) l s h

/-- one time coefficient and a consistent schedule: the cost is distance*c_d + duration*c_t -/
theorem fold_cost (v : Veh) (hu : uniformTimeCost v = true) (l : List RAct) (s : St) (h : schedOkFrom s.lastDep l = true) :
    let r := (l.foldl (stepAct v) s).stat
    r.cost - r.distance * v.cd - r.duration * v.ct = s.stat.cost - s.stat.distance * v.cd - s.stat.duration * v.ct := by
  simp only [uniformTimeCost, Bool.and_eq_true, beq_iff_eq] at hu
  obtain ⟨hw, hs⟩ := hu
  -- with the schedule put in, both sides are the same polynomial
  exact fold_sched_inv v (fun r => r.cost - r.distance * v.cd - r.duration * v.ct)
    (fun s a h1 h2 => by simp only [stepAct_stat, hw, hs, h2, h1, Int.add_mul, Int.sub_mul]; lia) l s h

def actKeys (s : WStop) : List (String × String) := s.activities.map (fun a => (a.jobId, a.type))
def flatKeys (stops : List WStop) : List (String × String) := stops.flatMap actKeys

theorem stepAct_flatKeys (v : Veh) (s : St) (a : RAct) :
    flatKeys (stepAct v s a).stops = flatKeys s.stops ++ [(actJobId a, actType a)] := by
  by_cases hn : s.lastLoc = a.loc
  · simp only [St.stops, (stepAct_same v hn).1, (stepAct_same v hn).2, flatKeys, actKeys, List.flatMap_append,
      List.flatMap_singleton, List.map_append, List.map_singleton, List.append_assoc, written]
  · simp only [St.stops, (stepAct_new v hn).1, (stepAct_new v hn).2, flatKeys, actKeys, List.flatMap_append,
      List.flatMap_singleton, List.map_singleton, written]

theorem fold_flatKeys (v : Veh) (l : List RAct) (s : St) :
    flatKeys (l.foldl (stepAct v) s).stops = flatKeys s.stops ++ l.map (fun a => (actJobId a, actType a)) := by
  induction l generalizing s with
  | nil => simp
  | cons a r ih => simp [ih, stepAct_flatKeys]

theorem stepAct_nonempty (v : Veh) (s : St) (a : RAct) (h : ∀ st ∈ s.stops, st.activities ≠ []) :
    ∀ st ∈ (stepAct v s a).stops, st.activities ≠ [] := by
  intro st hst
  rw [St.stops, List.mem_append, List.mem_singleton] at hst
  by_cases hn : s.lastLoc = a.loc
  · rw [(stepAct_same v hn).1, (stepAct_same v hn).2] at hst
    rcases hst with hd | rfl
    · exact h st (List.mem_append_left _ hd)
    · exact List.append_ne_nil_of_right_ne_nil _ (List.cons_ne_nil _ _)
  · rw [(stepAct_new v hn).1, (stepAct_new v hn).2] at hst
    rcases hst with hd | rfl
    · exact h st hd
    · exact List.cons_ne_nil _ _

theorem fold_nonempty (v : Veh) (l : List RAct) (s : St) (h : ∀ st ∈ s.stops, st.activities ≠ []) :
    ∀ st ∈ (l.foldl (stepAct v) s).stops, st.activities ≠ [] :=
  List.foldlRecOn l (stepAct v) h fun s hs a _ => stepAct_nonempty v s a hs

def adjDiff : List Nat → Prop
  | [] => True
  | [_] => True
  | a :: b :: r => a ≠ b ∧ adjDiff (b :: r)

theorem adjDiff_snoc (l : List Nat) (x y : Nat) (h : adjDiff (l ++ [x])) (hxy : x ≠ y) : adjDiff (l ++ [x] ++ [y]) := by
  induction l with
  | nil => exact ⟨hxy, trivial⟩
  | cons a r ih =>
    cases r with
    | nil => exact ⟨h.1, hxy, trivial⟩
    | cons b r' => exact ⟨h.1, ih h.2⟩

def locs (s : St) : List Nat := s.done.map (·.loc) ++ [s.cur.loc]

theorem stepAct_adj (v : Veh) (s : St) (a : RAct) (h : adjDiff (locs s)) (hc : s.cur.loc = s.lastLoc) :
    adjDiff (locs (stepAct v s a)) ∧ (stepAct v s a).cur.loc = (stepAct v s a).lastLoc := by
  rw [stepAct_lastLoc]
  by_cases hn : s.lastLoc = a.loc
  · rw [locs, (stepAct_same v hn).1, (stepAct_same v hn).2]
    exact ⟨h, hc.trans hn⟩
  · rw [locs, (stepAct_new v hn).1, (stepAct_new v hn).2, List.map_append]
    exact ⟨adjDiff_snoc _ _ _ h fun e => hn (hc.symm.trans e), rfl⟩

theorem fold_adj (v : Veh) (l : List RAct) (s : St) (h : adjDiff (locs s)) (hc : s.cur.loc = s.lastLoc) :
    adjDiff (locs (l.foldl (stepAct v) s)) :=
  (List.foldlRecOn (motive := fun s => adjDiff (locs s) ∧ s.cur.loc = s.lastLoc) l (stepAct v) ⟨h, hc⟩
    fun s hs a _ => stepAct_adj v s a hs.1 hs.2).1

theorem zipAll_of_adjDiff (stops : List WStop) (h : adjDiff (stops.map (·.loc))) :
    (stops.zip (stops.drop 1)).all (fun (a, b) => a.loc != b.loc) = true := by
  induction stops with
  | nil => rfl
  | cons a r ih =>
    cases r with
    | nil => rfl
    | cons b r' =>
      have := ih h.2
      simp only [List.drop_one, List.tail_cons, List.zip_cons_cons, List.all_cons, Bool.and_eq_true, bne_iff_ne, ne_eq] at this ⊢
      exact ⟨h.1, this⟩

/-- the open stop carries the distance travelled so far (legs inside a location have no length) -/
theorem fold_curDistance (v : Veh) (l : List RAct) (s : St) (h : selfLegsZeroFrom s.lastLoc l = true)
    (hc : s.cur.distance = s.stat.distance) :
    (l.foldl (stepAct v) s).cur.distance = (l.foldl (stepAct v) s).stat.distance := by
  induction l generalizing s with
  | nil => exact hc
  | cons a r ih =>
    simp only [selfLegsZeroFrom, Bool.and_eq_true, Bool.or_eq_true, bne_iff_ne, ne_eq, beq_iff_eq] at h
    refine ih _ (by rw [stepAct_lastLoc]; exact h.2) ?_
    rw [stepAct_stat]
    by_cases hn : s.lastLoc = a.loc
    · rw [(stepAct_same v hn).2]
      show s.cur.distance = s.stat.distance + a.legDist
      rw [hc, h.1.resolve_left (not_not_intro hn), Int.add_zero]
    · rw [(stepAct_new v hn).2]

theorem plainFold_flatKeys (v : Veh) (start : RAct) (rest : List RAct) :
    flatKeys (plainFold v start rest).stops = expectedActs (start :: rest) :=
  fold_flatKeys v rest (initSt start rest.head? [])

theorem plainFold_duration (v : Veh) (start : RAct) (rest : List RAct) :
    (plainFold v start rest).stat.duration = spanOf (start :: rest) := by
  rw [plainFold, (fold_duration v rest _).1]
  show (0 : Int) + ((rest.getLast?.map (·.dep)).getD start.dep - start.dep) = _
  rw [spanOf, List.head?_cons, List.getLast?_cons, Option.getD_map RAct.dep start]
  exact Int.zero_add _

theorem bool_imp {b c : Bool} (h : b = true → c = true) : (!b || c) = true := by
  cases b
  · rfl
  · exact h rfl

theorem plainFold_meets_spec (v : Veh) (start : RAct) (rest : List RAct) :
    specTour v (start :: rest) ⟨(plainFold v start rest).stops,
      { (plainFold v start rest).stat with cost := (plainFold v start rest).stat.cost + v.fixed }⟩ = [] := by
  simp only [specTour, List.append_eq_nil_iff]
  refine ⟨⟨⟨⟨⟨⟨⟨⟨if_pos ?_, if_pos ?_⟩, if_pos ?_⟩, if_pos ?_⟩, if_pos ?_⟩, if_pos ?_⟩, if_pos ?_⟩, if_pos ?_⟩, if_pos ?_⟩
  -- the nine clauses of `specTour`, in its order
  · exact beq_iff_eq.mpr (plainFold_flatKeys v start rest)
  · exact beq_iff_eq.mpr (plainFold_duration v start rest)
  · exact beq_iff_eq.mpr (fold_sum v (·.distance) (·.legDist) (fun _ _ => by rw [stepAct_stat]) rest _)
  · refine bool_imp fun hz => beq_iff_eq.mpr ?_
    rw [St.stops, List.getLast?_concat, Option.map_some]
    exact congrArg some (fold_curDistance v rest (initSt start rest.head? []) hz rfl)
  · simp only [Bool.and_eq_true, beq_iff_eq]
    exact ⟨⟨⟨fold_sum v (·.driving) (·.legDur) (fun _ _ => by rw [stepAct_stat]) rest _,
      fold_sum v (·.serving) _ (fun _ _ => by rw [stepAct_stat]) rest _⟩,
      fold_sum v (·.breakT) _ (fun _ _ => by rw [stepAct_stat]) rest _⟩,
      fold_sum v (·.waiting) _ (fun _ _ => by rw [stepAct_stat]) rest _⟩
  · refine bool_imp fun hsch => beq_iff_eq.mpr ?_
    have := fold_split v rest (initSt start rest.head? []) hsch
    simp only [plainFold] at this ⊢
    exact Int.sub_eq_zero.mp this
  · refine bool_imp fun h => beq_iff_eq.mpr ?_
    rw [Bool.and_eq_true] at h
    have : _ - _ * v.cd - _ * v.ct = (0 : Int) - 0 * v.cd - 0 * v.ct := fold_cost v h.2 rest (initSt start rest.head? []) h.1
    simp only [plainFold]
    lia
  · refine zipAll_of_adjDiff _ ?_
    rw [St.stops, List.map_append]
    exact fold_adj v rest (initSt start rest.head? []) trivial rfl
  · simp only [List.all_eq_true, Bool.not_eq_true', List.isEmpty_eq_false_iff]
    exact fold_nonempty v rest (initSt start rest.head? []) (fun st hst => by cases List.mem_singleton.mp hst; exact List.cons_ne_nil _ _)

/-- what `specTour` reads of a stop -/
def view (st : WStop) : Nat × Int × List (String × String) := (st.loc, st.distance, actKeys st)

theorem view_eraseL (st : WStop) : view (eraseL st) = view st := rfl

theorem view_tidy (st : WStop) : view (tidyStop st) = view st := by
  unfold tidyStop
  split
  · next a h => simp only [view, actKeys, h, List.map_singleton]
  · rfl

theorem Sim.views {s p : St} (h : Sim s p) : (s.stops.map tidyStop).map view = p.stops.map view := by
  have e : ∀ q : St, q.stops.map view = (q.done.map eraseL ++ [eraseL q.cur]).map view := fun q => by
    rw [St.stops, List.map_append, List.map_append, List.map_map]
    rfl
  rw [List.map_map, List.map_congr_left (f := view ∘ tidyStop) (g := view) fun st _ => view_tidy st, e s, e p, h.done, h.cur]

theorem flatKeys_view (ts : List WStop) :
    ts.flatMap (fun s => s.activities.map (fun a => (a.jobId, a.type))) = ((ts.map view).map (·.2.2)).flatten := by
  rw [List.map_map, List.flatMap_def]
  rfl

theorem lastDistance_view (ts : List WStop) : ts.getLast?.map (·.distance) = (ts.map view).getLast?.map (·.2.1) := by
  rw [List.getLast?_map, Option.map_map]
  rfl

theorem zipLocs_view (ts : List WStop) :
    (ts.zip (ts.drop 1)).all (fun (a, b) => a.loc != b.loc)
      = (((ts.map view).map (·.1)).zip (((ts.map view).map (·.1)).drop 1)).all (fun (a, b) => a != b) := by
  rw [List.map_map, ← List.map_drop, List.zip_map, List.all_map]
  rfl

theorem allNonempty_view (ts : List WStop) :
    ts.all (fun s => !s.activities.isEmpty) = (ts.map view).all (fun x => !x.2.2.isEmpty) := by
  simp only [List.all_map, Function.comp_def, view, actKeys, List.isEmpty_map]

theorem specTour_congr (v : Veh) (acts : List RAct) {t t' : WTour} (hs : t.stops.map view = t'.stops.map view)
    (hst : t.stat = t'.stat) : specTour v acts t = specTour v acts t' := by
  simp only [specTour, flatKeys_view, lastDistance_view, zipLocs_view, allNonempty_view, hs, hst]

theorem writeTour_views {v : Veh} {start : RAct} {rest : List RAct} {t : WTour} (h : writeTour v (start :: rest) = some t) :
    t.stops.map view = (plainFold v start rest).stops.map view
    ∧ t.stat = { (plainFold v start rest).stat with cost := (plainFold v start rest).stat.cost + v.fixed } := by
  obtain ⟨s, hs, hsim⟩ := foldRoute_sim v start rest
  simp only [writeTour, hs, Option.map_some, Option.some.injEq] at h
  subst h
  exact ⟨hsim.views, by rw [hsim.stat]⟩

/-- **C03 (writer model)**: for every route, every vehicle and every demand, the tour `writeTour` renders meets every clause
    of the reader's specification `specTour` -/
theorem writeTour_meets_spec (v : Veh) (acts : List RAct) (t : WTour) (h : writeTour v acts = some t) :
    specTour v acts t = [] := by
  cases acts with
  | nil => cases h
  | cons start rest =>
    obtain ⟨hv, hst⟩ := writeTour_views h
    rw [specTour_congr v _ (t' := ⟨(plainFold v start rest).stops, _⟩) hv hst]
    exact plainFold_meets_spec v start rest

theorem writeTour_total (v : Veh) (start : RAct) (rest : List RAct) : (writeTour v (start :: rest)).isSome = true := by
  obtain ⟨s, hs, _⟩ := foldRoute_sim v start rest
  rw [writeTour, hs]
  rfl

/-- no activity of the route is lost, duplicated or reordered -/
theorem writeTour_activities (v : Veh) (acts : List RAct) (t : WTour) (h : writeTour v acts = some t) :
    t.stops.flatMap (fun s => s.activities.map (fun a => (a.jobId, a.type))) = expectedActs acts := by
  cases acts with
  | nil => cases h
  | cons start rest =>
    rw [flatKeys_view, (writeTour_views h).1, ← flatKeys_view]
    exact plainFold_flatKeys v start rest

/-! ## the break writer (model of `insert_reserved_times_as_breaks`) -/

theorem tidyX_toX (s : WStop) : tidyX s.toX = (tidyStop s).toX := by
  obtain ⟨loc, arr, dep, dist, load, acts⟩ := s
  cases acts with
  | nil => rfl
  | cons a r =>
    cases r with
    | nil =>
      obtain ⟨j, t, l, tm, tg⟩ := a
      cases l <;> rfl
    | cons b r' => rfl

theorem map_tidyX_toX (l : List WStop) : (l.map WStop.toX).map tidyX = (l.map tidyStop).map WStop.toX := by
  rw [List.map_map, List.map_map]
  exact List.map_congr_left fun s _ => tidyX_toX s

theorem writeTourX_nil (v : Veh) (acts : List RAct) (openEnd : Bool) :
    writeTourX v acts openEnd [] = (writeTour v acts).map (fun t => { stops := t.stops.map WStop.toX, stat := t.stat }) := by
  unfold writeTourX writeTour insertBreaks
  cases foldRoute v acts with
  | none => rfl
  | some s =>
    simp only [Option.map_some, Option.some.injEq]
    cases acts.head? <;> cases acts.getLast? <;> exact congrArg (XTour.mk · _) (map_tidyX_toX s.stops)

theorem sortByTime_eq (l : List WActivity) : sortByTime l = C03U.sortBy (fun x y => !timeLt y x) l := by
  have ins : ∀ x r, insertByTime x r = C03U.insertSorted (fun x y => !timeLt y x) x r := fun x r => by
    induction r with
    | nil => rfl
    | cons y r ih =>
      unfold insertByTime C03U.insertSorted
      rw [ih]
      cases timeLt y x <;> rfl
  induction l with
  | nil => rfl
  | cons x r ih => exact (ins x _).trans (congrArg _ ih)

theorem sortByTime_perm (l : List WActivity) : (sortByTime l).Perm l :=
  sortByTime_eq l ▸ C03U.sortBy_perm _ l

theorem sortByTime_count (p : WActivity → Bool) (l : List WActivity) : (sortByTime l).countP p = l.countP p :=
  (sortByTime_perm l).countP_eq p

theorem sortByTime_length (l : List WActivity) : (sortByTime l).length = l.length :=
  (sortByTime_perm l).length_eq

theorem insertAt_perm {α : Type} (l : List α) (k : Nat) (x : α) : (insertAt l k x).Perm (x :: l) := by
  rw [insertAt]
  exact List.perm_middle.trans (by rw [List.take_append_drop])

theorem insertAt_countP {α : Type} (p : α → Bool) (l : List α) (k : Nat) (x : α) :
    (insertAt l k x).countP p = l.countP p + (if p x then 1 else 0) := by
  rw [(insertAt_perm l k x).countP_eq p, List.countP_cons]

theorem stretch_eq (rtw : TW) (a : WActivity) : stretch rtw a = { a with time := (stretch rtw a).time } := by
  unfold stretch
  split
  · split <;> rfl
  · rfl

theorem stretch_type (rtw : TW) (a : WActivity) : (stretch rtw a).type = a.type := by
  rw [stretch_eq]

theorem countP_mapExcept {α : Type} (p : α → Bool) (f : α → α) (hf : ∀ a, p (f a) = p a) (k : Nat) (l : List α) :
    (l.zipIdx.map (fun x => if x.2 == k then x.1 else f x.1)).countP p = l.countP p := by
  have e : List.countP (p ∘ fun x : α × Nat => if x.2 == k then x.1 else f x.1) l.zipIdx = List.countP (p ∘ Prod.fst) l.zipIdx := by
    apply List.countP_congr
    intro x _
    simp only [Function.comp]
    split
    · rfl
    · rw [hf]
  rw [List.countP_map, e, ← List.countP_map, List.zipIdx_map_fst]

theorem insertBreak_countP_of (p : WActivity → Bool) (rtw : TW) (hs : ∀ a, p (stretch rtw a) = p a) (b : Bool)
    (hb : ∀ tw, p (breakActivity tw) = b) (v : Veh) (moved : Option (Nat × TW)) (ov bt : Int) (idx : Nat) (stop : XStop) (stat : WStat) :
    (insertBreak v moved rtw ov bt idx stop stat).1.activities.countP p = stop.activities.countP p + (if b then 1 else 0) := by
  unfold insertBreak
  simp only [sortByTime_count, countP_mapExcept p _ hs, insertAt_countP, hb]

theorem insertBreak_activities (v : Veh) (moved : Option (Nat × TW)) (rtw : TW) (ov bt : Int) (idx : Nat) (stop : XStop) (stat : WStat) :
    (insertBreak v moved rtw ov bt idx stop stat).1.activities.length = stop.activities.length + 1
    ∧ (insertBreak v moved rtw ov bt idx stop stat).1.activities.countP (fun a => a.type == "break")
        = stop.activities.countP (fun a => a.type == "break") + 1 := by
  constructor
  · unfold insertBreak
    simp only [sortByTime_length, List.length_map, List.length_zipIdx, (insertAt_perm _ _ _).length_eq, List.length_cons]
  · exact insertBreak_countP_of _ rtw (fun a => by rw [stretch_type]) true (fun _ => rfl) v moved ov bt idx stop stat

structure JobPred (p : WActivity → Bool) : Prop where
  idOnly : ∀ a b : WActivity, a.jobId = b.jobId → a.type = b.type → p a = p b
  brk : ∀ tw, p (breakActivity tw) = false

theorem JobPred.stretch {p : WActivity → Bool} (hp : JobPred p) (rtw : TW) (a : WActivity) : p (C03W.stretch rtw a) = p a :=
  hp.idOnly _ _ (by rw [stretch_eq]) (stretch_type rtw a)

def countActs (p : WActivity → Bool) (stops : List XStop) : Nat := (stops.map (fun s => s.activities.countP p)).sum

theorem insertBreak_countP (p : WActivity → Bool) (hp : JobPred p) (v : Veh) (moved : Option (Nat × TW)) (rtw : TW) (ov bt : Int)
    (idx : Nat) (stop : XStop) (stat : WStat) :
    (insertBreak v moved rtw ov bt idx stop stat).1.activities.countP p = stop.activities.countP p :=
  insertBreak_countP_of p rtw (hp.stretch rtw) false hp.brk v moved ov bt idx stop stat

theorem countActs_concat (p : WActivity → Bool) (l : List XStop) (s : XStop) :
    countActs p (l ++ [s]) = countActs p l + s.activities.countP p := by
  simp [countActs, List.sum_append]

theorem foldl_countActs (p : WActivity → Bool) (f : List XStop × WStat → XStop × Nat → List XStop × WStat)
    (hf : ∀ acc x, ∃ s', (f acc x).1 = acc.1 ++ [s'] ∧ s'.activities.countP p = x.1.activities.countP p)
    (l : List (XStop × Nat)) (acc : List XStop × WStat) :
    countActs p (l.foldl f acc).1 = countActs p acc.1 + countActs p (l.map (·.1)) := by
  induction l generalizing acc with
  | nil => exact (Nat.add_zero _).symm
  | cons x r ih =>
    obtain ⟨s', h1, h2⟩ := hf acc x
    rw [List.foldl_cons, ih, h1, countActs_concat, h2, Nat.add_assoc]
    rfl

theorem reservedStops_countActs (p : WActivity → Bool) (stops : List XStop) (rs : Int) (rtw : TW) :
    countActs p (reservedStops stops rs rtw) = countActs p stops := by
  unfold reservedStops
  split
  · rw [countActs, ((insertAt_perm stops _ _).map _).sum_nat]
    exact Nat.zero_add _
  · rfl

theorem insertReservedAt_countActs (p : WActivity → Bool) (hp : JobPred p) (v : Veh) (acts : List RAct) (shift : TW) (t : XTour)
    (rs : Int) (rtw : TW) (dur : Int) : countActs p (insertReservedAt v acts shift t rs rtw dur).stops = countActs p t.stops := by
  unfold insertReservedAt
  split
  · rfl
  · rw [foldl_countActs p _ fun acc x => ?_, List.zipIdx_map_fst, reservedStops_countActs]
    · exact Nat.zero_add _
    · split
      · exact ⟨_, rfl, insertBreak_countP p hp ..⟩
      · exact ⟨_, rfl, rfl⟩

theorem insertBreaks_countActs (p : WActivity → Bool) (hp : JobPred p) (v : Veh) (acts : List RAct) (openEnd : Bool)
    (rs : List Reserved) (t : XTour) : countActs p (insertBreaks v acts openEnd rs t).stops = countActs p t.stops := by
  unfold insertBreaks
  split
  · exact List.foldlRecOn (motive := fun t' : XTour => countActs p t'.stops = countActs p t.stops) rs _ rfl
      fun _ ht _ _ => (insertReservedAt_countActs p hp ..).trans ht
  · rfl

theorem tidyX_countP (p : WActivity → Bool) (hp : JobPred p) (s : XStop) : (tidyX s).activities.countP p = s.activities.countP p := by
  unfold tidyX
  split
  · next a h =>
    rw [h, List.countP_singleton, List.countP_singleton]
    exact congrArg (fun b : Bool => if b = true then 1 else 0) (hp.idOnly _ a rfl rfl)
  · rfl

theorem countActs_map_tidyX (p : WActivity → Bool) (hp : JobPred p) (l : List XStop) : countActs p (l.map tidyX) = countActs p l := by
  simp [countActs, List.map_map, Function.comp_def, tidyX_countP p hp]

/-- **the break writer loses and invents no job activity**: whatever reserved times the vehicle has, the written tour holds
    every activity counted by an id-and-type predicate (that is false of breaks) exactly as often as the tour written without
    reserved times - and that one holds the route's activities (`writeTour_activities`) -/
theorem writeTourX_keeps_jobs (p : WActivity → Bool) (hp : JobPred p) (v : Veh) (acts : List RAct) (openEnd : Bool)
    (rs : List Reserved) (tx : XTour) (t : WTour) (hx : writeTourX v acts openEnd rs = some tx) (ht : writeTour v acts = some t) :
    countActs p tx.stops = countActs p (t.stops.map WStop.toX) := by
  rw [writeTourX] at hx
  rw [writeTour] at ht
  cases hf : foldRoute v acts with
  | none => rw [hf] at hx; cases hx
  | some s =>
    rw [hf] at hx ht
    cases hx
    cases ht
    show countActs p (List.map tidyX _) = _
    rw [countActs_map_tidyX p hp, insertBreaks_countActs p hp, ← map_tidyX_toX, countActs_map_tidyX p hp]

/-- non-vacuity: "is an activity of job j1" is such a predicate -/
example : JobPred (fun a => a.jobId == "j1") :=
  ⟨fun a b h _ => by simp [h], fun _ => by simp [breakActivity]⟩

def splitOf (st : WStat) : Int := st.driving + st.serving + st.waiting + st.breakT

theorem splitOf_breakT (st : WStat) (d : Int) : splitOf { st with breakT := st.breakT + d } = splitOf st + d :=
  (Int.add_assoc ..).symm

/-- what `insert_break` takes off the timing entries for one stop -/
def breakAdj (moved : Option (Nat × TW)) (ov bt : Int) (x : XStop × Nat) : Int :=
  let movedHere := match moved with | some (leg, _) => leg == x.2 | none => false
  match x.1.loc with
  | some _ => if movedHere then bt else if bt == 0 then 0 else ov
  | none => if movedHere then bt + bt else bt

/-- what ONE call of `insert_break` does to the timing entries (the break entry itself is raised by the caller, by the whole
    break): a break written into a point stop takes its overlap with waiting time off `waiting` (S52); a break in a transit stop,
    or one moved in front of a leg, takes the whole break off `driving` (the core had prolonged the travel); nothing else moves -/
theorem insertBreak_split (v : Veh) (moved : Option (Nat × TW)) (rtw : TW) (ov bt : Int) (idx : Nat) (stop : XStop) (stat : WStat) :
    let movedHere := match moved with | some (leg, _) => leg == idx | none => false
    let st' := (insertBreak v moved rtw ov bt idx stop stat).2
    splitOf st' = splitOf stat -
      (match stop.loc with
       | some _ => if movedHere then bt else if bt == 0 then 0 else ov
       | none => if movedHere then bt + bt else bt)
    ∧ st'.duration = stat.duration ∧ st'.distance = stat.distance := by
  unfold insertBreak splitOf
  rcases moved with _ | ⟨leg, tw⟩
  · cases stop.loc <;>
      simp only [Option.isSome_none, Bool.false_or, Bool.false_eq_true, beq_iff_eq, ↓reduceIte, and_true] <;> lia
  · cases h : leg == idx <;> cases stop.loc <;>
      simp only [h, Option.isSome_none, Option.isSome_some, Bool.false_or, Bool.true_or, Bool.false_eq_true, beq_iff_eq,
        ↓reduceIte, and_true] <;> lia

theorem foldl_insertBreak_split (v : Veh) (moved : Option (Nat × TW)) (rtw : TW) (ov bt : Int) (l : List (XStop × Nat))
    (acc : List XStop × WStat) :
    let res := l.foldl (fun (acc : List XStop × WStat) x =>
        if twIntersectsX (x.1.arrival, x.1.departure) rtw then
          let (s', st') := insertBreak v moved rtw ov bt x.2 x.1 acc.2
          (acc.1 ++ [s'], st')
        else (acc.1 ++ [x.1], acc.2)) acc
    splitOf res.2 = splitOf acc.2
        - ((l.filter (fun x => twIntersectsX (x.1.arrival, x.1.departure) rtw)).map (breakAdj moved ov bt)).sum
      ∧ res.2.duration = acc.2.duration ∧ res.2.distance = acc.2.distance := by
  induction l generalizing acc with
  | nil => exact ⟨(Int.sub_zero _).symm, rfl, rfl⟩
  | cons x r ih =>
    simp only [List.foldl_cons, List.filter_cons]
    split
    · obtain ⟨h1, h2, h3⟩ := insertBreak_split v moved rtw ov bt x.2 x.1 acc.2
      obtain ⟨t1, t2, t3⟩ := ih (acc.1 ++ [(insertBreak v moved rtw ov bt x.2 x.1 acc.2).1], (insertBreak v moved rtw ov bt x.2 x.1 acc.2).2)
      refine ⟨?_, t2.trans h2, t3.trans h3⟩
      rw [t1, h1, List.map_cons, List.sum_cons, Int.sub_sub]
      rfl
    · exact ih _

/-- **the accounting of one reserved time**: the timing entries grow by the break minus the adjustments of the stops it is
    written into; duration and distance do not move. With one point stop (the usual case) that is `break - overlap with waiting`,
    with a transit stop or a break moved in front of a leg it is nothing - the core had prolonged the travel already -/
theorem insertReservedAt_split (v : Veh) (acts : List RAct) (shift : TW) (t : XTour) (rs : Int) (rtw : TW) (dur : Int)
    (h : twIntersectsX shift rtw = true) :
    splitOf (insertReservedAt v acts shift t rs rtw dur).stat = splitOf t.stat + dur
        - (((reservedStops t.stops rs rtw).zipIdx.filter (fun x => twIntersectsX (x.1.arrival, x.1.departure) rtw)).map
            (breakAdj (reservedMoved t.stops rs rtw) (waitingOverlap acts rtw dur) dur)).sum
      ∧ (insertReservedAt v acts shift t rs rtw dur).stat.duration = t.stat.duration
      ∧ (insertReservedAt v acts shift t rs rtw dur).stat.distance = t.stat.distance := by
  unfold insertReservedAt
  simp only [h, Bool.not_true, Bool.false_eq_true, if_false]
  obtain ⟨h1, h2, h3⟩ := foldl_insertBreak_split v (reservedMoved t.stops rs rtw) rtw (waitingOverlap acts rtw dur) dur
    (reservedStops t.stops rs rtw).zipIdx ([], t.stat)
  refine ⟨?_, h2, h3⟩
  rw [splitOf_breakT, h1]
  exact Int.add_right_comm _ (-_) dur

/-- the usual case spelled out: the break is written into ONE point stop and is not moved - the timing entries grow by the
    break minus what of it was taken while waiting (exactly what the core prolongs the service by) -/
theorem insertReservedAt_split_one_point (v : Veh) (acts : List RAct) (shift : TW) (t : XTour) (rs : Int) (rtw : TW) (dur : Int)
    (h : twIntersectsX shift rtw = true) (x : XStop × Nat) (l : Nat)
    (hone : (reservedStops t.stops rs rtw).zipIdx.filter (fun x => twIntersectsX (x.1.arrival, x.1.departure) rtw) = [x])
    (hpoint : x.1.loc = some l) (hmoved : reservedMoved t.stops rs rtw = none) (hdur : dur ≠ 0) :
    splitOf (insertReservedAt v acts shift t rs rtw dur).stat = splitOf t.stat + dur - waitingOverlap acts rtw dur := by
  rw [(insertReservedAt_split v acts shift t rs rtw dur h).1, hone, hmoved]
  simp [breakAdj, hpoint, hdur]

theorem twOverlap_nonneg (a b : TW) (o : TW) (ha : a.1 ≤ a.2) (hb : b.1 ≤ b.2) (h : twOverlap a b = some o) : 0 ≤ o.2 - o.1 := by
  unfold twOverlap at h
  split at h
  · next hi =>
    cases h
    simp only [twIntersects, Bool.and_eq_true, decide_eq_true_eq] at hi
    show 0 ≤ min a.2 b.2 - max a.1 b.1
    omega
  · cases h

theorem ovOf_nonneg (rtw : TW) (a : RAct) (ha : a.arr ≤ a.tws) (hb : rtw.1 ≤ rtw.2) : 0 ≤ ovOf rtw a := by
  unfold ovOf
  cases h : twOverlap (a.arr, a.tws) rtw with
  | none => exact Int.le_refl 0
  | some o => exact twOverlap_nonneg _ _ _ ha hb h

theorem waitingOverlap_bounds (acts : List RAct) (rtw : TW) (dur : Int) (h : 0 ≤ dur) (hb : rtw.1 ≤ rtw.2) :
    0 ≤ waitingOverlap acts rtw dur ∧ waitingOverlap acts rtw dur ≤ dur :=
  ⟨Int.le_min.mpr ⟨List.foldlRecOn (motive := (0 ≤ ·)) _ _ (Int.le_refl 0) fun _ hx a ha =>
      Int.add_nonneg hx (ovOf_nonneg rtw a (Int.le_of_lt (of_decide_eq_true (List.mem_filter.mp ha).2)) hb), h⟩,
    Int.min_le_right _ _⟩

/-! ## the commute-aware writer agrees with the plain writer on routes without commute -/

def CStop.plain (s : CStop) : WStop :=
  { loc := s.loc, arrival := s.arrival, departure := s.departure, distance := s.distance, load := s.load,
    activities := s.activities.map (·.act) }

def CSt.plain (c : CSt) : St :=
  { done := c.done.map CStop.plain, cur := c.cur.plain, lastLoc := c.lastLoc, lastDep := c.lastDep, load := c.load, stat := c.stat.s }

def plainAct (a : RAct) : CAct := { a := a, commute := none, legsFrom := [] }

theorem stepActC_plain (v : Veh) (pk : Int) (c : CSt) (a : RAct) :
    (stepActC v pk c (plainAct a)).plain = stepAct v c.plain a := by
  unfold stepActC stepAct
  -- without commute the walk is empty, nothing is parked and the leg is the reported one; the `let`s stay meanwhile, so
  -- that each of these quantities is evaluated where it is bound and not at every use
  simp -zeta only [plainAct, Option.map_none, Option.getD_none, cinfoZero, List.find?_nil, Option.isSome_none,
    Bool.and_false, Bool.false_and, Bool.false_eq_true, if_false, Option.bind_none]
  -- what is left differs by `0 + a.arr + 0`, `a.dur - 0` and the like, whether or not a stop is opened
  cases h : c.lastLoc != a.loc <;>
    simp only [CSt.plain, CStop.plain, h, Int.zero_add, Int.add_zero, Int.sub_zero, Bool.false_eq_true, if_false, if_true,
      beq_self_eq_true, Bool.and_self, List.map_append, List.map_singleton, List.map_nil]

theorem foldl_stepActC_plain (v : Veh) (pk : Int) (l : List RAct) {c : CSt} {s : St} (h : c.plain = s) :
    ((l.map plainAct).foldl (stepActC v pk) c).plain = l.foldl (stepAct v) s := by
  rw [List.foldl_map]
  exact List.foldl_rel (r := fun (c : CSt) s => c.plain = s) h fun a _ c _ hc => hc ▸ stepActC_plain v pk c a

theorem initStC_plain (start : RAct) (n : Option RAct) (seg : List RAct) : (initStC start n seg).plain = initSt start n seg := by
  simp [initStC, CSt.plain, CStop.plain, initSt, WStat.zero]

theorem tidyC_plain (s : CStop) : (tidyC s).plain = tidyStop s.plain := by
  obtain ⟨loc, arr, dep, dist, load, pk, acts⟩ := s
  cases acts with
  | nil => rfl
  | cons a r =>
    cases r with
    | nil => simp [tidyC, tidyStop, CStop.plain]
    | cons b r' => rfl

theorem cutGo_map_plain (l cur : List RAct) :
    cutGo (fun c => isReload c.a) (l.map plainAct) (cur.map plainAct) = (cutGo isReload l cur).map (·.map plainAct) :=
  cutGo_map plainAct (fun c => isReload c.a) l cur

theorem map_a_plain (l : List RAct) : (l.map plainAct).map (·.a) = l := by
  simp [List.map_map, Function.comp_def, plainAct]

theorem plain_subLoad {c : CSt} {s : St} (h : c.plain = s) (x : Load) :
    ({ c with load := lsub c.load x } : CSt).plain = { s with load := lsub s.load x } := by
  subst h; rfl

theorem stepSegC_plain (v : Veh) (pk : Int) (c : CSt) (seg : List RAct) :
    (stepSegC v pk c (seg.map plainAct)).plain = stepSeg v c.plain seg := by
  unfold stepSegC stepSeg
  rw [map_a_plain]
  exact plain_subLoad (foldl_stepActC_plain v pk seg rfl) _

theorem foldl_stepSegC_plain (v : Veh) (pk : Int) (later : List (List RAct)) {c : CSt} {s : St} (h : c.plain = s) :
    ((later.map (·.map plainAct)).foldl (stepSegC v pk) c).plain = later.foldl (stepSeg v) s := by
  rw [List.foldl_map]
  exact List.foldl_rel (r := fun (c : CSt) s => c.plain = s) h fun seg _ c _ hc => hc ▸ stepSegC_plain v pk c seg

theorem render_plain (v : Veh) {c : CSt} {s : St} (h : c.plain = s) :
    (⟨(c.stops.map tidyC).map CStop.plain, { c.stat.s with cost := c.stat.s.cost + v.fixed }⟩ : WTour)
      = ⟨s.stops.map tidyStop, { s.stat with cost := s.stat.cost + v.fixed }⟩ := by
  subst h
  simp [CSt.stops, St.stops, CSt.plain, tidyC_plain, List.map_map, Function.comp_def]

/-- **the commute-aware model is a conservative extension**: on a route without commute it renders the tour of the plain
    writer model (for which `writeTour_meets_spec` is proved) -/
theorem writeTourC_plain (v : Veh) (pk : Int) (acts : List RAct) :
    (writeTourC v pk (acts.map plainAct)).map (fun r => ({ stops := r.1.map CStop.plain, stat := r.2.s } : WTour)) = writeTour v acts := by
  cases acts with
  | nil => rfl
  | cons start rest =>
    have hc : cutBefore (fun c => isReload c.a) ((start :: rest).map plainAct)
        = (cutBefore isReload (start :: rest)).map (·.map plainAct) := cutGo_map_plain (start :: rest) []
    simp only [List.map_cons] at hc
    simp only [writeTourC, writeTour, foldRoute, List.map_cons, hc]
    cases cutBefore isReload (start :: rest) with
    | nil => rfl
    | cons first later =>
      have e0 : (first.map plainAct).drop 1 = (first.drop 1).map plainAct := List.map_drop.symm
      have e1 : (rest.map plainAct).head?.map (·.a) = rest.head? := by cases rest <;> rfl
      simp only [List.map_cons, Option.map_some, e0, e1, map_a_plain]
      exact congrArg some (render_plain v (foldl_stepSegC_plain v pk later
        (plain_subLoad (foldl_stepActC_plain v pk _ (initStC_plain start _ _)) _)))

/-! ## non-vacuity: a concrete route with a reload, a break, waiting and a job at the depot

The tours are evaluated by the kernel alone: the elaborator's evaluator encodes a string literal anew at every comparison. -/

private def r0 : RAct := { loc := 0, arr := 0, dep := 10, tws := 0, dur := 0, placeIdx := 0, type := none, jobId := none, rootId := none,
                           tags := [], dem := none, legDur := 0, legDist := 0 }
private def r1 : RAct := { r0 with loc := 0, arr := 10, dep := 15, tws := 0, dur := 5, type := some "delivery", jobId := some "j1",
                                   dem := some ⟨[2], [], [], []⟩, tags := [(0, "a")] }
private def r2 : RAct := { r0 with loc := 3, arr := 22, dep := 40, tws := 30, dur := 10, type := some "pickup", jobId := some "j2",
                                   dem := some ⟨[], [], [1], []⟩, legDur := 7, legDist := 70 }
private def r3 : RAct := { r0 with loc := 0, arr := 45, dep := 50, tws := 0, dur := 5, type := some "reload", legDur := 5, legDist := 50 }
private def r4 : RAct := { r0 with loc := 4, arr := 52, dep := 60, tws := 0, dur := 8, type := some "break", legDur := 2, legDist := 20 }
private def r5 : RAct := { r0 with loc := 0, arr := 64, dep := 64, tws := 0, dur := 0, legDur := 4, legDist := 40 }
private def veh0 : Veh := ⟨100, 2, 3, 3, 3⟩

example : schedOk [r0, r1, r2, r3, r4, r5] = true ∧ selfLegsZero [r0, r1, r2, r3, r4, r5] = true ∧ uniformTimeCost veh0 = true := by decide
example : ((writeTour veh0 [r0, r1, r2, r3, r4, r5]).map (fun t => (t.stops.length, t.stat.cost, t.stat.duration, t.stat.breakT)))
    = some (5, 100 + 180 * 2 + 54 * 3, 54, 8) := by decide +kernel
example : ((writeTour veh0 [r0, r1, r2, r3, r4, r5]).map (fun t => specTour veh0 [r0, r1, r2, r3, r4, r5] t)) = some [] := by decide +kernel
/-- the specification is not trivially true: a tour that lost an activity is rejected -/
example : ((writeTour veh0 [r0, r1, r2, r3, r4, r5]).map (fun t => (specTour veh0 [r0, r1, r3, r4, r5] t).isEmpty)) = some false := by decide +kernel

/-- a required break 23-28 taken while the vehicle waits 22-30 at `r2` (S52): the waiting entry gives the overlap up, the
    timing entries add up to the duration and the cost does not move -/
example : ((writeTourX veh0 [r0, r1, r2, r3, r4, r5] false [⟨false, 23, 23, 5⟩]).map
      (fun t => (t.stat.breakT, t.stat.waiting, t.stat.cost,
                 t.stat.driving + t.stat.serving + t.stat.waiting + t.stat.breakT == t.stat.duration)))
    = some (13, 3, 100 + 180 * 2 + 54 * 3, true) := by decide +kernel

end C03W
