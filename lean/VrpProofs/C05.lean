import VrpModel.C05
/-!
# C05 — the stale-flag protocol keeps every non-stale cache equal to recomputation

For ANY tour type, cache type and `recompute` function, provided every tour mutation goes through `route_mut` (which
marks the route stale). What ties this to the code: the correspondence (cached values of the real code == `C05.recompute` of the
bare tour after every insertion) and the metamorphic oracle (real digest == real digest after stripping
and recomputing).
-/
namespace C05

variable {τ κ : Type} (rc : τ → κ)

def Valid (r : RouteSt τ κ) : Prop := r.cache = rc r.tour
def Inv (s : List (RouteSt τ κ)) : Prop := ∀ r ∈ s, r.stale = false → Valid rc r

/-- what `acceptRoute` and `acceptSolution` do to a route -/
def refresh (r : RouteSt τ κ) : RouteSt τ κ := if r.stale then { r with cache := rc r.tour, stale := false } else r

theorem refresh_spec (y : RouteSt τ κ) (h : y.stale = false → Valid rc y) :
    Valid rc (refresh rc y) ∧ (refresh rc y).stale = false := by
  unfold refresh
  cases hst : y.stale with
  | true => exact ⟨rfl, rfl⟩
  | false => exact ⟨h hst, hst⟩

theorem mem_modify {α : Type} (l : List α) (i : Nat) (f : α → α) (x : α) (h : x ∈ l.modify i f) :
    x ∈ l ∨ ∃ y ∈ l, x = f y := by
  obtain ⟨k, hk⟩ := List.mem_iff_getElem?.mp h
  rw [List.getElem?_modify] at hk
  obtain ⟨y, hy, rfl⟩ := Option.map_eq_some_iff.mp hk
  have hm := List.mem_of_getElem? hy
  split
  · exact Or.inr ⟨y, hm, rfl⟩
  · exact Or.inl hm

theorem Inv.update {s s' : List (RouteSt τ κ)} {g : RouteSt τ κ → RouteSt τ κ} (h : Inv rc s)
    (hs' : ∀ x ∈ s', x ∈ s ∨ ∃ y ∈ s, x = g y)
    (hg : ∀ y, (y.stale = false → Valid rc y) → (g y).stale = false → Valid rc (g y)) : Inv rc s' := by
  intro r hr
  rcases hs' r hr with h1 | ⟨y, hy, rfl⟩
  · exact h r h1
  · exact hg y (h y hy)

theorem step_inv (s : List (RouteSt τ κ)) (op : Op τ) (h : Inv rc s) : Inv rc (step rc s op) := by
  cases op with
  | mutate i f => exact h.update rc (mem_modify s i _) fun _ _ hs => nomatch hs
  | acceptInsertion i => exact h.update rc (mem_modify s i _) fun _ _ _ => rfl
  | acceptRoute i => exact h.update rc (mem_modify s i (refresh rc)) fun y hy _ => (refresh_spec rc y hy).1
  | acceptSolution =>
    refine h.update rc (fun x hx => ?_) fun y hy _ => (refresh_spec rc y hy).1
    obtain ⟨y, hy, e⟩ := List.mem_map.mp hx
    exact Or.inr ⟨y, hy, e.symm⟩

theorem run_inv (s : List (RouteSt τ κ)) (ops : List (Op τ)) (h : Inv rc s) :
    Inv rc (ops.foldl (step rc) s) := by
  induction ops generalizing s with
  | nil => exact h
  | cons op ops ih => exact ih _ (step_inv rc s op h)

theorem handover_all_valid (s : List (RouteSt τ κ)) (h : Inv rc s) :
    ∀ r ∈ step rc s .acceptSolution, Valid rc r ∧ r.stale = false := by
  intro r hr
  obtain ⟨y, hy, rfl⟩ := List.mem_map.mp hr
  exact refresh_spec rc y (h y hy)

/-- what the evaluator relies on between two insertions of a construction run -/
theorem acceptInsertion_valid (s : List (RouteSt τ κ)) (i : Nat) (r : RouteSt τ κ)
    (hr : (step rc s (.acceptInsertion i))[i]? = some r) : Valid rc r := by
  rw [step, List.getElem?_modify_eq] at hr
  obtain ⟨y, -, rfl⟩ := Option.map_eq_some_iff.mp hr
  rfl

/-- **objective values are a function of the tours only**: two handed-over solutions with identical tours get
    identical values of any quantity computed from the caches -/
theorem fitness_function_of_tours {φ : Type} (fit : List κ → φ) (s s' : List (RouteSt τ κ))
    (h : ∀ r ∈ s, Valid rc r) (h' : ∀ r ∈ s', Valid rc r)
    (htours : s.map (·.tour) = s'.map (·.tour)) :
    fit (s.map (·.cache)) = fit (s'.map (·.cache)) := by
  have e : ∀ l : List (RouteSt τ κ), (∀ r ∈ l, Valid rc r) → l.map (·.cache) = (l.map (·.tour)).map rc :=
    fun l hl => by rw [List.map_map]; exact List.map_congr_left hl
  rw [e s h, e s' h', htours]

/-- a second `accept_solution_state` changes nothing: the first one left no route stale -/
theorem recompute_idempotent (s : List (RouteSt τ κ)) :
    step rc (step rc s .acceptSolution) .acceptSolution = step rc s .acceptSolution := by
  simp only [step, List.map_map]
  refine List.map_congr_left fun r _ => ?_
  cases hst : r.stale <;> simp [hst]

/-- a route mutated through `mutate` keeps `Inv`, one mutated without `route_mut` (flag not set) breaks it -/
example : Inv (fun (t : List Nat) => t.length)
    (step (fun (t : List Nat) => t.length) [⟨[1, 2], 2, false⟩] (.mutate 0 (fun t => 7 :: t))) := by
  intro r hr hs; simp [step, List.modify] at hr; subst hr; simp at hs
example : ¬ Inv (fun (t : List Nat) => t.length) [⟨[7, 1, 2], 2, false⟩] := by
  intro h; have := h ⟨[7, 1, 2], 2, false⟩ (by simp) rfl; simp [Valid] at this

end C05
