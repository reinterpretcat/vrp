import VrpModel.C07
import VrpProofs.C02
/-!
# C07 — interruption at any poll still yields an accounted-for solution; generations never exceed the maximum

Every statement is for EVERY poll index `k` at which the quota turns true, every operator body and every amount of
fuel. The enumeration of every `k` on the real solver (this check's harness) is what ties the skeleton to the code.
-/
namespace C07
open Machine

theorem applyAll_reachable (ops : List Op) : ∀ c, Reachable c (applyAll c ops) := by
  induction ops with
  | nil => exact .refl
  | cons op ops ih =>
    intro c
    rw [applyAll]
    cases hs : step c op with
    | none => exact ih c
    | some c' => exact (Reachable.step hs).trans (ih c')

theorem processLoop_reachable (k : Nat) (body : Ctx → List Op) (fuel : Nat) :
    ∀ c p, Reachable c (processLoop k body fuel c p).1 := by
  induction fuel with
  | zero => exact fun c _ => .refl c
  | succ fuel ih =>
    intro c p
    simp only [processLoop]
    split
    · exact .refl c
    · split
      · exact .refl c
      · exact (applyAll_reachable _ c).trans (ih _ _)

theorem process_finalizes (all : List Job) (k : Nat) (body : Ctx → List Op) (fuel : Nat) (c : Ctx) (p : Nat)
    (h : Part all c) :
    let r := (process k body fuel c p).1
    r.required = [] ∧ Part all r ∧ ∀ rt ∈ r.routes, rt.jobs ≠ [] := by
  -- `prepare` and `finalize` have no guard, so the `getD`s around them are their results
  simp only [process]
  obtain ⟨c0, hprep⟩ : ∃ c0, step c .prepare = some c0 := ⟨_, rfl⟩
  rw [hprep, Option.getD_some]
  have hr := (Reachable.step hprep).trans (processLoop_reachable k body fuel c0 p)
  generalize (processLoop k body fuel c0 p).1 = c1 at hr ⊢
  obtain ⟨c2, hfin⟩ : ∃ c2, step c1 .finalize = some c2 := ⟨_, rfl⟩
  rw [hfin, Option.getD_some]
  exact ⟨finalize_no_required c1 c2 hfin, dropEmpty_part all c2 (step_part all c1 c2 .finalize (hr.part h) hfin),
    dropEmpty_no_empty_route c2⟩

theorem quota_of_le {k p : Nat} (hk : k ≤ p) : quota k p = true := decide_eq_true hk

/-- entered after the quota fired, the loop runs no body -/
theorem processLoop_stops_when_fired (k : Nat) (body : Ctx → List Op) (fuel : Nat) (c : Ctx) (p : Nat)
    (hk : k ≤ p) : (processLoop k body fuel c p).1 = c := by
  cases fuel with
  | zero => rfl
  | succ fuel =>
    simp only [processLoop, quota_of_le hk, if_true]
    split <;> rfl

theorem generations_le_max (maxGen k : Nat) (ppg : Nat → Nat) (fuel : Nat) :
    ∀ g p, g ≤ maxGen → evolve maxGen k ppg fuel g p ≤ maxGen := by
  induction fuel with
  | zero => intro g p h; exact h
  | succ fuel ih =>
    intro g p h
    simp only [evolve]
    split
    · exact h
    · next hc =>
      simp only [Bool.or_eq_true, decide_eq_true_eq, not_or, Nat.not_le] at hc
      exact ih (g + 1) _ hc.1

/-- entered after the quota fired, the evolution runs no generation -/
theorem evolve_stops_when_fired (maxGen k : Nat) (ppg : Nat → Nat) (fuel g p : Nat) (hk : k ≤ p) :
    evolve maxGen k ppg fuel g p = g := by
  cases fuel with
  | zero => rfl
  | succ fuel => simp only [evolve, quota_of_le hk, Bool.or_true, if_true]

example : (process 1 (fun c => match c.required with | j :: _ => [.insertNew j 7, .insert j 0] | [] => [])
    10 { required := [1, 2, 3], ignored := [], unassigned := [], locked := [], routes := [], available := [7] } 0).1.unassigned
    = [2, 3] := by decide
example : evolve 5 100 (fun _ => 3) 50 0 0 = 5 ∧ evolve 5 6 (fun _ => 3) 50 0 0 = 2 := by decide

end C07
