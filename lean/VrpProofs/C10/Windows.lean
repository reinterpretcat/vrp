import VrpProofs.C10.Lists
/-!
# C10 — the sort-then-adjacent time-window check decides the documented criteria
(E1103, E1302, E1303, E1304; `validation/common.rs::check_time_windows`, the adjacent pairs combined with `all`: repair S1)
-/
namespace C10
open Validate Rules

theorem insertTw_perm (x : TW) (l : List TW) : (insertTw x l).Perm (x :: l) := by
  induction l with
  | nil => simp [insertTw]
  | cons y ys ih =>
    unfold insertTw
    split
    · exact List.Perm.refl _
    · exact (List.Perm.cons y ih).trans (List.Perm.swap x y ys)

theorem sortTw_perm (l : List TW) : (sortTw l).Perm l := by
  induction l with
  | nil => simp [sortTw]
  | cons x xs ih =>
    unfold sortTw
    exact (insertTw_perm x (sortTw xs)).trans (List.Perm.cons x ih)

theorem insertTw_sorted (x : TW) (l : List TW) (h : l.Pairwise (fun a b => a.s ≤ b.s)) :
    (insertTw x l).Pairwise (fun a b => a.s ≤ b.s) := by
  induction l with
  | nil => simp [insertTw]
  | cons y ys ih =>
    obtain ⟨hy, hys⟩ := List.pairwise_cons.mp h
    unfold insertTw
    split
    · next hxy =>
      exact List.pairwise_cons.mpr ⟨List.forall_mem_cons.mpr ⟨hxy, fun a ha => Int.le_trans hxy (hy a ha)⟩, h⟩
    · next hxy =>
      refine List.pairwise_cons.mpr ⟨fun a ha => ?_, ih hys⟩
      rcases List.mem_cons.mp ((insertTw_perm x ys).mem_iff.mp ha) with rfl | ha
      · exact Int.le_of_lt (Int.not_le.mp hxy)
      · exact hy a ha

theorem sortTw_sorted (l : List TW) : (sortTw l).Pairwise (fun a b => a.s ≤ b.s) := by
  induction l with
  | nil => simp [sortTw]
  | cons x xs ih => unfold sortTw; exact insertTw_sorted x _ ih

def TwSpec (skip : Bool) (l : List TW) : Prop :=
  (∀ a ∈ l, a.valid = true) ∧ (skip = true ∨ l.Pairwise (fun a b => a.intersects b = false))

theorem disjoint_of_sorted {a b x : TW} (hbx : b.s ≤ x.s) (hb : b.valid = true)
    (h : a.intersects b = false) (hab : a.s ≤ b.s) : a.intersects x = false := by
  -- `a.s ≤ b.s ≤ b.e`, so `a` misses `b` only by `a.e < b.s`; then `a.e < b.s ≤ x.s`
  simp only [TW.intersects, TW.valid, Bool.and_eq_false_iff, decide_eq_false_iff_not, decide_eq_true_eq] at *
  lia

/-- `adjOk` says nothing about a lone window, hence the head's validity on the left -/
theorem adjOk_iff_of_sorted (skip : Bool) (a : TW) (l : List TW) (hs : (a :: l).Pairwise (fun a b => a.s ≤ b.s)) :
    (a.valid && adjOk skip (a :: l)) = true ↔ TwSpec skip (a :: l) := by
  induction l generalizing a with
  | nil => simp [adjOk, TwSpec]
  | cons b r ih =>
    obtain ⟨hab, hs'⟩ := List.pairwise_cons.mp hs
    have ih' := ih b hs'
    rw [adjOk, Bool.and_assoc, Bool.and_assoc, ← Bool.and_assoc a.valid, Bool.and_self, Bool.and_left_comm b.valid]
    simp only [Bool.and_eq_true, ih', TwSpec, List.forall_mem_cons (a := a), List.pairwise_cons (a := a),
      Bool.or_eq_true, Bool.not_eq_true']
    constructor
    · rintro ⟨ha, hd, hv, hp⟩
      refine ⟨⟨ha, hv⟩, hd.elim Or.inl fun hd => hp.imp id fun hp => ⟨fun x hx => ?_, hp⟩⟩
      rcases List.mem_cons.mp hx with rfl | hx
      · exact hd
      · exact disjoint_of_sorted ((List.pairwise_cons.mp hs').1 x hx) (hv b List.mem_cons_self) hd (hab b List.mem_cons_self)
    · rintro ⟨⟨ha, hv⟩, hp⟩
      exact ⟨ha, hp.imp id fun hp => hp.1 b List.mem_cons_self, hv, hp.imp id And.right⟩

theorem twSpec_perm (skip : Bool) {l l' : List TW} (h : l.Perm l') : TwSpec skip l ↔ TwSpec skip l' := by
  unfold TwSpec
  have hp := h.pairwise_iff (R := fun a b : TW => a.intersects b = false)
    (fun {a b} hab => (Bool.and_comm _ _).trans hab)
  constructor
  · rintro ⟨h1, h2⟩
    exact ⟨fun a ha => h1 a (h.mem_iff.mpr ha), h2.imp id hp.mp⟩
  · rintro ⟨h1, h2⟩
    exact ⟨fun a ha => h1 a (h.mem_iff.mp ha), h2.imp id hp.mpr⟩

/-- any arrangement of two or more windows that is sorted by start gives the same verdict: the order `sort_by`
    leaves among equal starts does not matter -/
theorem adjOk_iff_of_perm_sorted (skip : Bool) {ws l : List TW} (hp : l.Perm ws)
    (hs : l.Pairwise (fun a b => a.s ≤ b.s)) (hlen : 2 ≤ ws.length) : adjOk skip l = true ↔ TwSpec skip ws := by
  rw [← twSpec_perm skip hp]
  match l, hp.length_eq ▸ hlen with
  | c :: d :: l', _ =>
    rw [← adjOk_iff_of_sorted skip c _ hs, adjOk, ← Bool.and_assoc, ← Bool.and_assoc, ← Bool.and_assoc, Bool.and_self]

theorem checkWs_iff (skip : Bool) (ws : List TW) (hne : ws ≠ []) :
    checkWs skip ws = true ↔ TwSpec skip ws := by
  match ws, hne with
  | [a], _ => simp [TwSpec, checkWs]
  | a :: b :: r, _ =>
    simp only [checkWs, List.isEmpty_cons, Bool.not_false, Bool.true_and]
    exact adjOk_iff_of_perm_sorted skip (sortTw_perm _) (sortTw_sorted _) (Nat.le_add_left 2 r.length)

theorem twOptListOk_some (skip : Bool) (ws : List TW) :
    twOptListOk (ws.map some) skip = true ↔ ws ≠ [] ∧ TwSpec skip ws := by
  simp only [twOptListOk, TwSpec, Bool.and_eq_true, Bool.or_eq_true, Bool.not_eq_true', List.all_eq_true,
    pairwiseB_iff, List.isEmpty_map, List.isEmpty_eq_false_iff, List.forall_mem_map, List.pairwise_map,
    TW.validOpt, TW.disjointOpt, and_assoc, ne_eq]

theorem map_some_filterMap_id {α : Type} (l : List (Option α)) (h : none ∉ l) : (l.filterMap id).map some = l := by
  induction l with
  | nil => rfl
  | cons x xs ih =>
    cases x with
    | none => exact absurd List.mem_cons_self h
    | some t => exact congrArg (some t :: ·) (ih fun hm => h (List.mem_cons_of_mem _ hm))

/-- **E1103 / E1302–E1304 core**: for any number of windows, `check_time_windows` accepts exactly the
    lists that are non-empty, consist of well-formed windows and (unless intersections are allowed)
    are pairwise disjoint -/
theorem checkTimeWindows_eq (tws : List (Option TW)) (skip : Bool) :
    checkTimeWindows tws skip = twOptListOk tws skip := by
  unfold checkTimeWindows
  by_cases hnone : tws.any Option.isNone = true
  · obtain ⟨x, hx, hxn⟩ := List.any_eq_true.mp hnone
    cases x with
    | some _ => cases hxn
    | none =>
      have : tws.all TW.validOpt = false := List.all_eq_false.mpr ⟨none, hx, Bool.false_ne_true⟩
      rw [if_pos hnone, twOptListOk, this, Bool.and_false, Bool.false_and]
  · have hmap := map_some_filterMap_id tws fun hm => hnone (List.any_eq_true.mpr ⟨none, hm, rfl⟩)
    generalize tws.filterMap id = ws at hmap
    subst hmap
    rw [if_neg hnone, Bool.eq_iff_iff, twOptListOk_some]
    by_cases hne : ws = []
    · subst hne; simp [checkWs]
    · rw [checkWs_iff skip ws hne]
      exact ⟨fun h => ⟨hne, h⟩, And.right⟩

theorem twListOk_eq_opt (raw : List (List Tm)) (skip : Bool) :
    twListOk raw skip = twOptListOk (raw.map parseTw) skip := by
  unfold twListOk twOptListOk
  have h1 : (raw.map parseTw).isEmpty = raw.isEmpty := by cases raw <;> rfl
  have h2 : (raw.map parseTw).all TW.validOpt = raw.all (fun w => TW.validOpt (parseTw w)) := by
    rw [List.all_map]; rfl
  have h3 : ∀ l : List (List Tm), pairwiseB TW.disjointOpt (l.map parseTw)
      = pairwiseB (fun a b => TW.disjointOpt (parseTw a) (parseTw b)) l := by
    intro l
    induction l with
    | nil => rfl
    | cons x xs ih => simp only [List.map_cons, pairwiseB, ih, List.all_map]; rfl
  rw [h1, h2, h3]

theorem checkRaw_eq (raw : List (List Tm)) (skip : Bool) : checkRaw raw skip = twListOk raw skip := by
  unfold checkRaw
  rw [checkTimeWindows_eq, twListOk_eq_opt]

end C10
