import VrpProofs.C10.Algo
import VrpProofs.C10.Windows
/-!
# C10 — every rule function reports its code exactly when the documented rule is broken
(`fires_ENNNN : Validate.fires d .ENNNN = Rules.violates d .ENNNN`, one lemma per rule)
-/
namespace C10
open Validate Rules

theorem tasksOf_eq (j : Job) :
    tasksOf j = optList j.pickups ++ optList j.deliveries ++ optList j.replacements ++ optList j.services := by
  simp only [tasksOf, typedTasks, List.map_append, List.map_map, Function.comp_def, List.map_id']

theorem ctxTasks_eq (j : Job) : ctxTasks j = tasksOf j := (tasksOf_eq j).symm

theorem any_allTasksIter (j : Job) (p : Task → Bool) : (allTasksIter j).any p = (tasksOf j).any p := by
  simp only [tasksOf_eq, allTasksIter, List.any_append, Bool.or_assoc, Bool.or_comm ((optList j.services).any p)]

theorem typedTasks_any (j : Job) (g : TaskKind × Task → Bool) :
    (typedTasks j).any g
      = ((optList j.pickups).any (fun t => g (.pickup, t)) || (optList j.deliveries).any (fun t => g (.delivery, t))
        || (optList j.replacements).any (fun t => g (.replacement, t)) || (optList j.services).any (fun t => g (.service, t))) := by
  simp only [typedTasks, List.any_append, List.any_map, Function.comp_def]

theorem fires_E1100 (d : Doc) : fires d .E1100 = violates d .E1100 := hasDuplicates_eq _

theorem fires_E1101 (d : Doc) : fires d .E1101 = violates d .E1101 := by
  dsimp only [fires, violates]
  simp only [e1101, not_isEmpty_filter, typedTasks_any, List.any_append, reduceCtorEq, if_false, if_true]

theorem fires_E1102 (d : Doc) : fires d .E1102 = violates d .E1102 := by
  dsimp only [fires, violates]
  simp only [e1102, not_isEmpty_filter, e1102_sum_equation, Bool.and_assoc]

theorem hasInvalidTws_eq (ts : Option (List Task)) :
    hasInvalidTws ts = (optList ts).any (fun t => t.places.any (fun p => p.times.any (fun tws => !twListOk tws false))) := by
  simp only [hasInvalidTws, any_filterMap', checkRaw_eq]

theorem fires_E1103 (d : Doc) : fires d .E1103 = violates d .E1103 := by
  dsimp only [fires, violates]
  simp only [e1103, not_isEmpty_filter, tasksOf_eq, hasInvalidTws_eq, List.any_append]

theorem fires_E1104 (d : Doc) : fires d .E1104 = violates d .E1104 := not_isEmpty_filter _ _

theorem fires_E1105 (d : Doc) : fires d .E1105 = violates d .E1105 := by
  dsimp only [fires, violates]
  simp only [e1105, not_isEmpty_filter, ctxTasks_eq, tasksOf, List.isEmpty_map]

theorem fires_E1106 (d : Doc) : fires d .E1106 = violates d .E1106 := by
  dsimp only [fires, violates]
  simp only [e1106, not_isEmpty_filter, ctxTasks_eq, List.any_flatMap, List.any_map, Function.comp_def]

theorem fires_E1107 (d : Doc) : fires d .E1107 = violates d .E1107 := by
  dsimp only [fires, violates]
  simp only [e1107, not_isEmpty_filter, ctxTasks_eq]
  refine List.any_congr rfl fun j => List.any_congr rfl fun t => ?_
  cases t.demand <;> rfl

theorem job?_isSome (d : Doc) (id : String) : (d.job? id).isSome = (d.jobs.map (·.id)).contains id := by
  rw [Doc.job?, foldl_lastSome_isSome (fun j : Job => j.id == id), List.contains_eq_any_beq, List.any_map]
  exact List.any_congr rfl fun j => BEq.comm

theorem job?_id (d : Doc) (id : String) (jb : Job) (h : d.job? id = some jb) : jb.id = id :=
  beq_iff_eq.mp (foldl_lastSome_spec (fun j : Job => j.id == id) d.jobs none (fun _ h => nomatch h) jb h)

theorem vehOf?_isSome (d : Doc) (vid : String) : (d.vehOf? vid).isSome = (d.vehicles.flatMap (·.ids)).contains vid := by
  rw [Doc.vehOf?, foldl_lastSome_isSome (fun v : Veh => v.ids.contains vid), List.contains_eq_any_beq, List.any_flatMap]
  simp only [List.contains_eq_any_beq]; rfl

theorem fires_E1200 (d : Doc) : fires d .E1200 = violates d .E1200 := by
  dsimp only [fires, violates]
  cases d.relations with
  | none => rfl
  | some rs =>
    simp only [e1200, optList, Option.getD_some, not_isEmpty_flatMap, not_isEmpty_filter, List.any_filter,
      ← Option.not_isSome, job?_isSome]
    rfl

theorem fires_E1201 (d : Doc) : fires d .E1201 = violates d .E1201 := by
  dsimp only [fires, violates]
  cases d.relations with
  | none => rfl
  | some rs =>
    simp only [e1201, optList, Option.getD_some, not_isEmpty_filter, List.any_map, Function.comp_def,
      ← Option.not_isSome, vehOf?_isSome]

theorem fires_E1202 (d : Doc) : fires d .E1202 = violates d .E1202 := by
  dsimp only [fires, violates]
  cases d.relations with
  | none => rfl
  | some rs =>
    simp only [e1202, optList, Option.getD_some, List.not_any_eq_all_not, Bool.not_not]
    rfl

/-- E1203 (S20): the specification applies the rule to relations of EVERY type. The error index says "strict or
    sequence relation", but `docs/src/concepts/pragmatic/problem/relations.md` ("relation with jobs which have
    multiple pickups or deliveries places are not yet supported"), the pinned unit test
    `can_detect_multi_place_time_window_jobs::case03` (RelationType::Any ⇒ E1203) and vrp-core's
    `create_insertion_context` (asserts one place and one window for the jobs of locks of every order, `Any`
    included) all agree with the code; only the sentence in the index is too narrow (no code defect). -/
theorem fires_E1203 (d : Doc) : fires d .E1203 = violates d .E1203 := by
  dsimp only [fires, violates]
  cases d.relations with
  | none => rfl
  | some rs =>
    simp only [e1203, optList, Option.getD_some, not_isEmpty_flatMap, List.isEmpty_map, not_isEmpty_filter,
      any_filterMap', List.any_filter, ctxTasks_eq]
    rfl

theorem fires_E1204 (d : Doc) : fires d .E1204 = violates d .E1204 := by
  dsimp only [fires, violates]
  cases d.relations with
  | none => rfl
  | some rs => exact e1204_eq_any rs

theorem fires_E1205 (d : Doc) : fires d .E1205 = violates d .E1205 := by
  dsimp only [fires, violates]
  cases d.relations with
  | none => rfl
  | some rs =>
    simp only [e1205, optList, Option.getD_some, not_isEmpty_filter, isNone_getElem?]
    refine List.any_congr rfl fun r => ?_
    cases d.vehOf? r.vehicle <;> rfl

theorem isOptionalBreak_eq : isOptionalBreak = isOptional := by
  funext b; cases b <;> rfl

theorem countStr_eq (id : String) (ids : List String) : countStr id ids = countId id ids := by
  unfold countStr countId
  rw [List.count_eq_countP, List.countP_eq_length_filter]

theorem countId_pos (id : String) (ids : List String) : decide (countId id ids > 0) = ids.contains id := by
  simp only [countId, gt_iff_lt, List.count_pos_iff, List.contains_eq_mem]

theorem fires_E1206 (d : Doc) : fires d .E1206 = violates d .E1206 := by
  dsimp only [fires, violates]
  cases d.relations with
  | none => rfl
  | some rs =>
    simp only [e1206, optList, Option.getD_some, not_isEmpty_filter]
    refine List.any_congr rfl fun r => ?_
    unfold relShift?
    cases d.vehOf? r.vehicle with
    | none => rfl
    | some v =>
      simp only [Option.any_some]
      cases v.shifts[r.shift.getD 0]? with
      | none => rfl
      | some s =>
        simp only [Option.any_some, countStr_eq, isOptionalBreak_eq, optionalBreaks, optList, countId_pos]
        cases s.reloads <;> cases s.recharges <;> rfl

theorem taskCount_eq (j : Job) : taskCount j = (typedTasks j).length := by
  simp only [taskCount, typedTasks, List.length_append, List.length_map]

theorem fires_E1207 (d : Doc) : fires d .E1207 = violates d .E1207 := by
  dsimp only [fires, violates]
  cases d.relations with
  | none => rfl
  | some rs =>
    simp only [e1207, optList, Option.getD_some, not_isEmpty_flatMap, List.isEmpty_map, not_isEmpty_filter,
      any_filterMap', e1207_frequency, taskCount_eq]
    refine List.any_congr rfl fun r => List.any_congr rfl fun j => ?_
    cases hj : d.job? j with
    | none => rfl
    | some jb => rw [Option.any_some, Option.any_some, job?_id d j jb hj]; rfl

theorem invalidTypes_nonempty (d : Doc) (ok : Shift → Bool) :
    (!(invalidTypes d ok).isEmpty) = d.vehicles.any (fun v => v.shifts.any (fun s => !ok s)) := by
  simp only [invalidTypes, List.isEmpty_map, not_isEmpty_filter, List.not_all_eq_any_not]

theorem fires_E1300 (d : Doc) : fires d .E1300 = violates d .E1300 := hasDuplicates_eq _
theorem fires_E1301 (d : Doc) : fires d .E1301 = violates d .E1301 := hasDuplicates_eq _

theorem parseTw_shiftRaw (s : Shift) : parseTw (shiftRaw s) = shiftSpan s := by
  unfold shiftRaw shiftSpan parseTw
  cases hs : s.startE with
  | bad => cases s.end_ <;> simp [tw2]
  | «at» a =>
    cases he : s.end_ with
    | none => simp [tw2]
    | some e => cases hl : e.latest <;> simp [tw2, hl]

theorem shiftTime_eq (s : Shift) : shiftTime s = shiftWindow s := by
  unfold shiftTime shiftWindow
  cases hs : s.startE with
  | bad => cases s.end_ <;> simp [tw2]
  | «at» a =>
    cases he : s.end_ with
    | none => simp [tw2]
    | some e => cases hl : e.latest <;> simp [tw2, hl]

theorem toList_all_ne_bad (o : Option Tm) : o.toList.all (· != .bad) = !(o == some .bad) := by
  rcases o with _ | _ | _ <;> rfl

theorem optionalDatesOk_eq (s : Shift) : optionalDatesOk s = !optionalDateBad s := by
  simp only [optionalDatesOk, optionalDateBad, List.all_append, toList_all_ne_bad, Bool.not_or]
  cases s.end_ <;> simp only [toList_all_ne_bad] <;> rfl

theorem fires_E1302 (d : Doc) : fires d .E1302 = violates d .E1302 := by
  dsimp only [fires, violates]
  simp only [e1302, not_isEmpty_filter, checkRaw_eq, twListOk_eq_opt, List.map_map, Function.comp_def,
    parseTw_shiftRaw, Bool.not_and, List.not_all_eq_any_not, optionalDatesOk_eq, Bool.not_not]

theorem breakTw_eq (s : Shift) : breakTw s = breakWindow s := by
  funext b
  cases b with
  | optTw tw locs => rfl
  | optOff off locs => simp only [breakTw, breakWindow, bne_iff_ne, ne_eq, ite_not]
  | reqOff e l dur => rfl
  | reqExact e l dur => cases e <;> cases l <;> rfl

theorem checkShiftTws_eq (s : Shift) (tws : List (Option TW)) (skip : Bool) :
    checkShiftTws (shiftTime s) tws skip = (tws.isEmpty || (twOptListOk tws skip && insideShift s tws)) := by
  unfold checkShiftTws insideShift
  rw [checkTimeWindows_eq, shiftTime_eq]
  cases shiftWindow s with
  | none => rfl
  | some t =>
    simp only []
    congr 2
    rw [all_filterMap']
    refine List.all_congr rfl fun w => ?_
    cases w <;> rfl

theorem fires_E1303 (d : Doc) : fires d .E1303 = violates d .E1303 := by
  dsimp only [fires, violates]
  simp only [e1303, invalidTypes_nonempty, checkShiftTws_eq, breakTw_eq]
  refine List.any_congr rfl fun v => List.any_congr rfl fun s => ?_
  cases s.breaks with
  | none => rfl
  | some bs => exact Bool.not_or _ _

theorem reloadLikeTimes_filterMap (s : Shift) :
    (reloadLikeTimes s).filterMap id = (optList s.reloads).filterMap (·.times) ++ (optList s.recharges).filterMap (·.times) := by
  rw [reloadLikeTimes, List.filterMap_append, List.filterMap_map, List.filterMap_map]
  rfl

theorem fires_E1304 (d : Doc) : fires d .E1304 = violates d .E1304 := by
  dsimp only [fires, violates]
  simp only [e1304, invalidTypes_nonempty, reloadLikeTimes_filterMap, checkShiftTws_eq, Bool.not_or, twListOk_eq_opt,
    List.isEmpty_map]

theorem fires_E1306 (d : Doc) : fires d .E1306 = violates d .E1306 := not_isEmpty_filter _ _

theorem isOffsetBreak_eq : isOffsetBreak = usesOffset := by
  funext b; cases b <;> rfl

theorem fires_E1307 (d : Doc) : fires d .E1307 = violates d .E1307 := by
  dsimp only [fires, violates]
  simp only [e1307, invalidTypes_nonempty, isOffsetBreak_eq]
  refine List.any_congr rfl fun v => List.any_congr rfl fun s => ?_
  cases s.breaks with
  | none => rfl
  | some bs =>
    -- `none ⇒ true | some l ⇒ l != start.earliest` is `start.latest != some start.earliest`
    cases s.startL <;> simp [optList, bne]

theorem fires_E1308 (d : Doc) : fires d .E1308 = violates d .E1308 := by
  dsimp only [fires, violates]
  simp only [e1308, dedup_length_bne, Bool.if_true_left, Bool.decide_eq_true, invalidTypes_nonempty,
    all_filterMap', List.not_all_eq_any_not]
  congr 1
  refine List.any_congr rfl fun v => List.any_congr rfl fun s => List.any_congr rfl fun r => ?_
  cases r.res <;> rfl

theorem breakLocs_eq : breakLocs = breakPlaces := by
  funext b; cases b <;> rfl

theorem shiftLocs_eq : shiftLocs = shiftLocations := by
  funext s
  unfold shiftLocs shiftLocations
  rw [breakLocs_eq]
  cases s.end_ <;> rfl

theorem allLocs_eq (d : Doc) : allLocs d = locations d := by
  have hj : jobLocs = fun j => (tasksOf j).flatMap (fun t => t.places.map (·.loc)) := by
    funext j; rw [jobLocs, tasksOf_eq]
  simp only [allLocs, locations, hj, shiftLocs_eq]

theorem fires_E1500 (d : Doc) : fires d .E1500 = violates d .E1500 := hasDuplicates_eq _
theorem fires_E1501 (d : Doc) : fires d .E1501 = violates d .E1501 := rfl

theorem hasIndices_eq (d : Doc) : hasIndices d = (locations d).any Loc.isIdx := by
  rw [hasIndices, allLocs_eq]

theorem hasCoordinates_eq (d : Doc) : hasCoordinates d = (locations d).any Loc.isCoord := by
  rw [hasCoordinates, allLocs_eq]
  exact List.any_congr rfl fun l => by cases l <;> rfl

theorem fires_E1502 (d : Doc) : fires d .E1502 = violates d .E1502 := by
  dsimp only [fires, violates]
  rw [e1502, hasCoordinates_eq, hasIndices_eq]

theorem fires_E1503 (d : Doc) : fires d .E1503 = violates d .E1503 := by
  dsimp only [fires, violates]
  rw [e1503, hasIndices_eq]

theorem maxMatrixIndex_succ (d : Doc) : maxMatrixIndex d + 1 = requiredSize d := by
  unfold maxMatrixIndex requiredSize coordKeys
  rw [allLocs_eq]
  simp only []
  rw [foldl_max_congr _ _ _ (dedup_spec (locations d)).2, dedup_length]
  exact refIndex_indexBound _ _

/-- **E1504**: `max_index + 1 == round(sqrt(len₀))` and every matrix has `size²` entries, exactly when
    every matrix is square of the dimension the locations need -/
theorem fires_E1504 (d : Doc) : fires d .E1504 = violates d .E1504 := by
  dsimp only [fires, violates]
  simp only [e1504]
  cases hm : d.matrices with
  | nil => rfl
  | cons m rest =>
    simp only []
    rw [maxMatrixIndex_succ]
    generalize requiredSize d = req
    have key : (req == roundSqrt m.dist && (m :: rest).all (fun m' => m'.dist == roundSqrt m.dist * roundSqrt m.dist))
        = (m :: rest).all (fun m' => isSquareOf m'.dist req) := by
      rw [Bool.eq_iff_iff]
      simp only [Bool.and_eq_true, beq_iff_eq, List.all_eq_true, isSquareOf]
      constructor
      · rintro ⟨h1, h2⟩ m' hm'
        rw [h1]; exact (h2 m' hm').symm
      · intro h
        have hs : roundSqrt m.dist = req := by rw [← h m List.mem_cons_self]; exact roundSqrt_sq req
        refine ⟨hs.symm, fun m' hm' => ?_⟩
        rw [hs]; exact (h m' hm').symm
    rw [key, List.not_all_eq_any_not]

theorem fires_E1505 (d : Doc) : fires d .E1505 = violates d .E1505 := by
  dsimp only [fires, violates]
  simp only [e1505, not_isEmpty_filter, List.any_append, List.any_map, Function.comp_def]
  cases d.clustering <;> simp

theorem hasValueJobs_eq (d : Doc) : hasValueJobs d = jobHasValue d := any_filterMap' _ _ _

theorem hasOrderJobs_eq (d : Doc) : hasOrderJobs d = jobHasOrder d := by
  simp only [hasOrderJobs, jobHasOrder, any_filterMap', List.any_flatMap, any_allTasksIter]

theorem fires_E1600 (d : Doc) : fires d .E1600 = violates d .E1600 := by
  dsimp only [fires, violates]
  rfl

theorem fires_E1601 (d : Doc) : fires d .E1601 = violates d .E1601 := by
  dsimp only [fires, violates]
  simp only [e1601_iff]

theorem fires_E1602 (d : Doc) : fires d .E1602 = violates d .E1602 := by
  dsimp only [fires, violates]
  simp only [e1602_iff]

theorem fires_E1603 (d : Doc) : fires d .E1603 = violates d .E1603 := by
  dsimp only [fires, violates]
  simp only [e1603, any_beq_leafCount, hasValueJobs_eq]

theorem fires_E1604 (d : Doc) : fires d .E1604 = violates d .E1604 := by
  dsimp only [fires, violates]
  simp only [e1604, any_beq_leafCount, hasOrderJobs_eq]

theorem fires_E1605 (d : Doc) : fires d .E1605 = violates d .E1605 := by
  dsimp only [fires, violates]
  simp only [e1605, not_isEmpty_filter, any_filterMap', any_allTasksIter,
    Bool.or_comm (Option.any _ _)]

theorem fires_E1606 (d : Doc) : fires d .E1606 = violates d .E1606 := by
  dsimp only [fires, violates]
  simp only [e1606_iff]

theorem fires_E1607 (d : Doc) : fires d .E1607 = violates d .E1607 := by
  dsimp only [fires, violates]
  simp only [e1607, any_beq_leafCount, hasValueJobs_eq, Bool.if_false_left, Bool.decide_eq_true,
    Nat.pos_iff_ne_zero, decide_not, Bool.not_not, Bool.and_assoc]
  rfl

end C10
