import VrpProofs.C10.Lists
/-!
# C10 — rules with algorithmic content: E1102 (demand balance), E1204 (entry map),
E1207 (group sizes), E1504 (matrix dimension), E1601–E1607 (flattened objective tree)
-/
namespace C10
open Validate Rules

theorem zipPad_length (f : Int → Int → Int) (a b : Load) : (zipPad f a b).length = max a.length b.length := by
  induction a generalizing b with
  | nil => simp [zipPad]
  | cons x xs ih =>
    cases b with
    | nil => simp [zipPad]
    | cons y ys => simp [zipPad, ih] <;> omega

theorem getD_map_zero (g : Int → Int) (hg : g 0 = 0) (l : List Int) (i : Nat) :
    (l.map g).getD i 0 = g (l.getD i 0) := by
  rw [List.getD_eq_getElem?_getD, List.getD_eq_getElem?_getD, List.getElem?_map]
  cases l[i]? with
  | none => exact hg.symm
  | some _ => rfl

theorem zipPad_getD (f : Int → Int → Int) (hf : f 0 0 = 0) (a b : Load) (i : Nat) :
    (zipPad f a b).getD i 0 = f (a.getD i 0) (b.getD i 0) := by
  induction a generalizing b i with
  | nil => exact getD_map_zero (f 0) hf b i
  | cons x xs ih =>
    cases b with
    | nil => exact getD_map_zero (fun x => f x 0) hf (x :: xs) i
    | cons y ys =>
      cases i with
      | zero => rfl
      | succ n => exact ih ys n

theorem sumDemand_go_getD (ts : List Task) (init : Load) (i : Nat) :
    (ts.foldl (fun acc t => Load.add (t.demand.getD []) acc) init).getD i 0 = init.getD i 0 + dimSum i ts := by
  induction ts generalizing init with
  | nil => simp [dimSum]
  | cons t rest ih =>
    rw [List.foldl_cons, ih]
    simp only [Load.add, zipPad_getD (· + ·) (by simp), dimSum, List.map_cons, List.sum_cons]
    omega

theorem sumDemand_getD (ts : List Task) (i : Nat) : (sumDemand ts).getD i 0 = dimSum i ts :=
  (sumDemand_go_getD ts [] i).trans (Int.zero_add _)

theorem sumDemand_go_length (ts : List Task) (init : Load) :
    (ts.foldl (fun acc t => Load.add (t.demand.getD []) acc) init).length
      = (ts.map (fun t => (t.demand.getD []).length)).foldl max init.length := by
  induction ts generalizing init with
  | nil => rfl
  | cons t rest ih => rw [List.foldl_cons, ih, Load.add, zipPad_length, Nat.max_comm]; rfl

theorem sumDemand_length (ts : List Task) : (sumDemand ts).length = maxDims ts :=
  sumDemand_go_length ts []

theorem any_ne_zero_iff (l : Load) : l.any (· != 0) = (List.range l.length).any (fun i => l.getD i 0 != 0) := by
  rw [Bool.eq_iff_iff]
  simp only [List.any_eq_true, List.mem_range, bne_iff_ne, ne_eq]
  constructor
  · rintro ⟨x, hx, hne⟩
    obtain ⟨i, hi, rfl⟩ := List.getElem_of_mem hx
    exact ⟨i, hi, by simpa [List.getD_eq_getElem?_getD, hi] using hne⟩
  · rintro ⟨i, hi, hne⟩
    refine ⟨l[i], List.getElem_mem hi, ?_⟩
    simpa [List.getD_eq_getElem?_getD, hi] using hne

/-- **E1102**: the load `sum(pickups) − sum(deliveries)` has a non-zero entry exactly when in some
    dimension the pickup demands and the delivery demands do not add up to the same amount -/
theorem e1102_sum_equation (p dl : List Task) :
    Load.neDefault (Load.sub (sumDemand p) (sumDemand dl))
      = (List.range (max (maxDims p) (maxDims dl))).any (fun i => dimSum i p != dimSum i dl) := by
  unfold Load.neDefault
  rw [any_ne_zero_iff]
  simp only [Load.sub, zipPad_length, sumDemand_length, zipPad_getD (· - ·) (by simp), sumDemand_getD]
  refine List.any_congr rfl fun i => ?_
  rw [Bool.eq_iff_iff]
  simp only [bne_iff_ne, ne_eq]
  lia

/-- invariant of the scan, `seen` being the entry map so far -/
theorem e1204Go_eq_nil (seen ps : List (String × String)) :
    e1204Go seen ps = [] ↔
      (∀ p ∈ ps, ∀ f, seen.lookup p.1 = some f → f = p.2) ∧ ps.Pairwise (fun p q => p.1 = q.1 → p.2 = q.2) := by
  induction ps generalizing seen with
  | nil => simp [e1204Go]
  | cons p rest ih =>
    obtain ⟨j, v⟩ := p
    rw [e1204Go, List.forall_mem_cons, List.pairwise_cons]
    cases hl : seen.lookup j with
    | none =>
      -- `(j, v)` enters the map: agreeing with the extended map is agreeing with `seen` and with `(j, v)`
      have key : ∀ p : String × String, (∀ f, List.lookup p.1 ((j, v) :: seen) = some f → f = p.2)
          ↔ (∀ f, seen.lookup p.1 = some f → f = p.2) ∧ (j = p.1 → v = p.2) := by
        intro p
        by_cases hp : p.1 = j
        · -- `p` names `j`: the entry `(j, v)` answers, and by `hl` the map without it has nothing to say
          simp only [hp, List.lookup_cons_self, Option.some.injEq, forall_eq', hl, reduceCtorEq, false_implies,
            implies_true, forall_const, true_and]
        · simp only [lookup_cons_ne _ _ _ _ hp, Ne.symm hp, false_implies, and_true]
      simp only [ih, key, imp_and, forall_and, reduceCtorEq, false_imp_iff, implies_true, true_and, and_assoc]
    | some f =>
      by_cases hfv : f = v
      · -- the map stays; agreement of `(j, v)` with the later pairs follows from theirs with the map
        subst hfv
        simp only [bne_self_eq_false, Bool.false_eq_true, if_false, ih, Option.some.injEq, forall_eq', true_and,
          and_congr_right_iff, iff_and_self]
        exact fun h _ q hq e => h q hq f (e ▸ hl)
      · simp only [bne_iff_ne, ne_eq, hfv, not_false_eq_true, if_true, reduceCtorEq, Option.some.injEq, forall_eq',
          false_and]

theorem mem_relPairs (rs : List Rel) (j v : String) :
    (j, v) ∈ relPairs rs ↔ ∃ r ∈ rs, j ∈ r.jobs ∧ isReserved j = false ∧ r.vehicle = v := by
  simp only [relPairs, List.mem_flatMap, List.mem_map, List.mem_filter, Bool.not_eq_true', Prod.mk.injEq]
  exact ⟨fun ⟨r, hr, _, ⟨hj, hres⟩, e, ev⟩ => e ▸ ⟨r, hr, hj, hres, ev⟩,
    fun ⟨r, hr, hj, hres, ev⟩ => ⟨r, hr, j, ⟨hj, hres⟩, rfl, ev⟩⟩

/-- **E1204**: the `entry(job).or_insert(vehicle) != vehicle` scan reports a job exactly when two
    relations naming different vehicles share a non-reserved job id -/
theorem e1204_eq_any (rs : List Rel) :
    e1204 rs = rs.any (fun r1 => rs.any (fun r2 =>
      r1.vehicle != r2.vehicle && r1.jobs.any (fun j => !isReserved j && r2.jobs.contains j))) := by
  rw [Bool.eq_iff_iff, e1204, Bool.not_eq_true', List.isEmpty_eq_false_iff, Ne, e1204Go_eq_nil,
    pairwise_iff_forall_mem _ (fun _ _ => rfl) (fun _ _ h e => (h e.symm).symm)]
  simp only [List.lookup_nil, reduceCtorEq, false_imp_iff, implies_true, true_and, Prod.forall, mem_relPairs,
    List.any_eq_true, Bool.and_eq_true, bne_iff_ne, ne_eq, Bool.not_eq_true', List.contains_iff_mem]
  constructor
  · intro h
    apply Classical.byContradiction
    intro hn
    apply h
    rintro j v1 ⟨r1, hr1, hj1, hres, rfl⟩ _ v2 ⟨r2, hr2, hj2, _, rfl⟩ rfl
    exact Classical.byContradiction fun hne => hn ⟨r1, hr1, r2, hr2, hne, j, hj1, hres, hj2⟩
  · rintro ⟨r1, hr1, r2, hr2, hne, j, hj1, hres, hj2⟩ h
    exact hne (h j _ ⟨r1, hr1, hj1, hres, rfl⟩ j _ ⟨r2, hr2, hj2, hres, rfl⟩ rfl)

def incr (x : String) (p : String × Nat) : String × Nat := if p.1 == x then (p.1, p.2 + 1) else p

/-- one step of `collect_group_by_key` on the sizes -/
def groupStep (acc : List (String × Nat)) (x : String) : List (String × Nat) :=
  match acc.lookup x with
  | some _ => acc.map (incr x)
  | none => acc ++ [(x, 1)]

theorem lookup_map_incr (acc : List (String × Nat)) (x y : String) :
    (acc.map (incr x)).lookup y = (acc.lookup y).map (fun n => if y = x then n + 1 else n) := by
  induction acc with
  | nil => rfl
  | cons p rest ih =>
    obtain ⟨k, n⟩ := p
    have e : incr x (k, n) = (k, if k = x then n + 1 else n) := by
      unfold incr; by_cases hk : k = x <;> simp [hk]
    rw [List.map_cons, e]
    by_cases hy : y = k
    · rw [hy, List.lookup_cons_self, List.lookup_cons_self]; rfl
    · rw [lookup_cons_ne _ _ _ _ hy, lookup_cons_ne _ _ _ _ hy, ih]

theorem groupStep_lookup (acc : List (String × Nat)) (x y : String) :
    ((groupStep acc x).lookup y).getD 0 = (acc.lookup y).getD 0 + (if x = y then 1 else 0) := by
  unfold groupStep
  -- an absent `x` is appended: that pair answers the lookup of `y` only for `y = x`
  by_cases hy : x = y
  · subst hy
    cases hl : acc.lookup x <;> simp [lookup_map_incr, List.lookup_append, hl]
  · have hy' : ¬ y = x := fun e => hy e.symm
    cases acc.lookup x <;> simp [lookup_map_incr, List.lookup_append, lookup_cons_ne _ _ _ _ hy', hy, hy']

theorem groupCount_eq_foldl (ids : List String) : groupCount ids = ids.foldl groupStep [] := rfl

/-- **E1207**: the size of a job's group is the number of times its id occurs in the relation -/
theorem e1207_frequency (ids : List String) (y : String) :
    ((groupCount ids).lookup y).getD 0 = ids.count y := by
  rw [groupCount_eq_foldl]
  suffices h : ∀ acc, ((ids.foldl groupStep acc).lookup y).getD 0 = (acc.lookup y).getD 0 + ids.count y from
    (h []).trans (Nat.zero_add _)
  induction ids with
  | nil => intro acc; rfl
  | cons x xs ih =>
    intro acc
    rw [List.foldl_cons, ih, groupStep_lookup, List.count_cons, Nat.add_assoc, Nat.add_comm (List.count y xs)]
    simp only [beq_iff_eq]

theorem foldl_max_le (l : List Nat) (a n : Nat) : l.foldl max a ≤ n ↔ a ≤ n ∧ ∀ x ∈ l, x ≤ n := by
  induction l generalizing a with
  | nil => simp
  | cons x xs ih => rw [List.foldl_cons, ih, Nat.max_le, List.forall_mem_cons, and_assoc]

theorem foldl_max_map_le {α : Type} (f : α → Nat) (l : List α) (n : Nat) :
    (l.map f).foldl max 0 ≤ n ↔ ∀ x ∈ l, f x ≤ n := by
  simp only [foldl_max_le, Nat.zero_le, true_and, List.forall_mem_map]

theorem foldl_max_congr {α : Type} (a b : List α) (f : α → Nat) (h : ∀ x, x ∈ a ↔ x ∈ b) :
    (a.map f).foldl max 0 = (b.map f).foldl max 0 :=
  Nat.le_antisymm
    ((foldl_max_map_le f a _).mpr fun x hx => (foldl_max_map_le f b _).mp (Nat.le_refl _) x ((h x).mp hx))
    ((foldl_max_map_le f b _).mpr fun x hx => (foldl_max_map_le f a _).mp (Nat.le_refl _) x ((h x).mpr hx))

/-- largest `index` versus largest `index + 1`; `k` stands for the number of distinct locations -/
theorem refIndex_indexBound (l : List Loc) (k : Nat) :
    max ((l.map Loc.refIndex).foldl max 0) (max k 1 - 1) + 1
      = max 1 (max k ((l.map Loc.indexBound).foldl max 0)) := by
  generalize hR : (l.map Loc.refIndex).foldl max 0 = R
  generalize hB : (l.map Loc.indexBound).foldl max 0 = B
  have hR' := (foldl_max_map_le Loc.refIndex l R).mp (Nat.le_of_eq hR)
  have hB' := (foldl_max_map_le Loc.indexBound l B).mp (Nat.le_of_eq hB)
  have h1 : B ≤ R + 1 := hB ▸ (foldl_max_map_le _ _ _).mpr fun x hx => by
    cases x with
    | idx n => exact Nat.succ_le_succ (hR' _ hx)
    | coord _ _ => exact Nat.zero_le _
  have h2 : R ≤ B - 1 := hR ▸ (foldl_max_map_le _ _ _).mpr fun x hx => by
    cases x with
    | idx n => exact Nat.le_sub_one_of_lt (hB' _ hx)
    | coord _ _ => exact Nat.zero_le _
  have hm : 1 ≤ max k 1 := Nat.le_max_right k 1
  rw [← Nat.max_assoc, Nat.max_comm 1 k, ← Nat.add_max_add_right, Nat.sub_add_cancel hm, Nat.max_comm]
  -- without an index both maxima are 0, otherwise they differ by one
  rcases Nat.eq_zero_or_pos B with rfl | hpos
  · rw [Nat.le_zero.mp h2, Nat.max_zero]; exact Nat.max_eq_left hm
  · rw [Nat.le_antisymm h1 (Nat.succ_le_of_lt (Nat.lt_of_le_pred hpos h2))]

theorem roundSqrtGo_sq (k fuel s : Nat) (hs : s ≤ k) (hf : k - s < fuel) : roundSqrtGo (k * k) fuel s = k := by
  induction fuel generalizing s with
  | zero => omega
  | succ f ih =>
    rw [roundSqrtGo]
    by_cases h : s = k
    · subst h; exact if_pos (Nat.le_add_right _ _)
    · -- `s < k`, hence `s² + s < (s + 1)² ≤ k²`
      have hlt : s + 1 ≤ k := Nat.lt_of_le_of_ne hs h
      have h1 : (s + 1) * (s + 1) ≤ k * k := Nat.mul_le_mul hlt hlt
      simp only [Nat.add_mul, Nat.mul_add, Nat.mul_one, Nat.one_mul] at h1
      rw [if_neg (by omega)]
      exact ih (s + 1) hlt (by omega)

/-- `round(sqrt(k²)) = k`; perfect squares are all E1504 needs: a clean document has matrices of `n²` entries -/
theorem roundSqrt_sq (k : Nat) : roundSqrt (k * k) = k :=
  roundSqrtGo_sq k _ 0 (Nat.zero_le k) (Nat.lt_succ_of_le (Nat.le_trans (Nat.sub_le k 0) (Nat.le_mul_self k)))

theorem leafCount_eq_count (k : ObjKind) (os : List Obj) : leafCount k os = (flatten os).count k := by
  induction os with
  | nil => rfl
  | cons o rest ih =>
    simp only [leafCount, flatten, List.map_cons, List.sum_cons, List.flatMap_cons, List.count_append] at ih ⊢
    rw [ih]
    cases o with
    | leaf k' => simp only [List.count_singleton, beq_iff_eq]
    | multi inner => rfl

/-- E1601: the set of discriminants is smaller than the flattened list iff some kind has two leaves -/
theorem e1601_iff (os : List Obj) :
    e1601 os = allKinds.any (fun k => decide (1 < leafCount k os)) := by
  unfold e1601
  rw [Bool.eq_iff_iff]
  simp only [Bool.not_eq_true', beq_eq_false_iff_ne, ne_eq, dedup_length_eq_iff, List.nodup_iff_count,
    List.any_eq_true, decide_eq_true_eq, leafCount_eq_count]
  constructor
  · intro h
    obtain ⟨a, ha⟩ := Classical.not_forall.mp h
    exact ⟨a, by cases a <;> decide, by omega⟩
  · rintro ⟨a, _, ha⟩ h
    have := h a
    omega

theorem filter_isCost_length (l : List ObjKind) :
    (l.filter ObjKind.isCost).length = (costKinds.map (fun k => l.count k)).sum := by
  -- the cost kinds are the members of `costKinds`, each once
  have ind : ∀ x : ObjKind, (if x.isCost then 1 else 0) = (costKinds.map (fun k => if x == k then 1 else 0)).sum :=
    fun x => by cases x <;> rfl
  rw [← List.countP_eq_length_filter]
  induction l with
  | nil => rfl
  | cons x xs ih =>
    rw [List.countP_cons, ih, ind]
    simp only [costKinds, List.map_cons, List.map_nil, List.sum_cons, List.sum_nil, List.count_cons]
    lia

theorem any_isCost_iff (l : List ObjKind) :
    l.any ObjKind.isCost = !(costKinds.all (fun k => l.count k == 0)) := by
  rw [Bool.eq_iff_iff, List.any_eq_true, ← List.countP_pos_iff, List.countP_eq_length_filter, filter_isCost_length]
  simp only [costKinds, List.map_cons, List.map_nil, List.sum_cons, List.sum_nil, List.all_cons, List.all_nil,
    Bool.and_true, Bool.not_eq_true', Bool.and_eq_false_iff, beq_eq_false_iff_ne, ne_eq]
  omega

theorem e1602_iff (os : List Obj) : e1602 os = costKinds.all (fun k => leafCount k os == 0) := by
  simp only [e1602, any_isCost_iff, Bool.not_not, leafCount_eq_count]

theorem e1606_iff (os : List Obj) : e1606 os = decide (1 < (costKinds.map (fun k => leafCount k os)).sum) := by
  simp only [e1606, filter_isCost_length, leafCount_eq_count]

theorem any_beq_leafCount (os : List Obj) (k : ObjKind) :
    (flatten os).any (· == k) = decide (0 < leafCount k os) := by
  simp only [leafCount_eq_count, List.any_beq', List.contains_eq_mem, List.count_pos_iff]

end C10
