import VrpProofs.C08.Greedy
import VrpProofs.C08.Rosomaxa
/-!
# C08 — a population never loses its best-known solution: the property theorems

Everything is stated for an arbitrary type of individuals with decidable equality, an objective `le` that is a
**total preorder** (`TotalPreorder`: transitive, total), an arbitrary dedup function, arbitrary sizes
(`max_population_size ≥ 1`; for Rosomaxa also `selection_size ≥ 1`) and **every** finite sequence of operations
`add / add_all / on_generation(statistics) / select(random tape)`.

`*_trace_meets_spec`: the trace of the model satisfies `traceOK`, the same Boolean predicate that the check evaluates
on the traces of the real populations.

Greedy: `/repo`'s `add_all` hands every element to `add` (`Greedy.repoShortCircuits = false`), so
`greedy_best_le_all_offered` is the statement about the code. The theorems are given for both folds: for the
short-circuiting `acc || self.add(..)` that `/repo` had before repair S35, only the considered prefix of a batch is
covered and `greedy_short_circuit_add_all_loses_best` is the kernel-checked witness of the loss — this is what the mutant
`C08-n-greedy-short-circuit` reintroduces and what the oracle (always the full specification) rejects.
Out of model: the GSOM network — the node part of `Rosomaxa::select` in the exploration phase comes from a tape that is
assumed to contain offered individuals only (`tapeHyp`); no theorem, here or in C19, discharges that assumption.
-/

namespace C08

variable {α : Type} [DecidableEq α]

theorem ind_le_totalPreorder : TotalPreorder Ind.le :=
  TotalPreorder.of_rel (r := fun a b : Ind => a.fit ≤ b.fit) (fun _ _ _ => Int.le_trans) (fun _ _ => Int.le_total _ _)

theorem ind_fitEq_iff (a b : Ind) : Ind.fitEq a b = (Ind.le a b && Ind.le b a) :=
  (decide_eq_decide.mpr Int.le_antisymm_iff).trans (Bool.decide_and ..)

/-- **Greedy, either fold, every operation sequence: the observed trace satisfies the specification**
    (for the short-circuiting fold with the considered prefix of each batch as what was offered). -/
theorem greedy_trace_meets_spec (sc : Bool) (c : Cfg α) (hp : TotalPreorder c.le) (init : Option α)
    (ops : List (Op α)) :
    traceOK (greedySpec sc c) init.toList init.toList .exploitation ((greedyM sc c).trace init ops) = true :=
  (greedy_meets sc hp).trace ops init.toList init (GInv.init c hp init) (HypAll_of_forall (fun _ _ _ => trivial) _ _)

/-- **Greedy as in /repo (`add_all` hands every element to `add`): after ANY operation sequence the best known is one of
    the offered individuals and no worse than every individual ever offered, singly or in a batch.** -/
theorem greedy_best_le_all_offered (c : Cfg α) (hp : TotalPreorder c.le) (init : Option α) (ops : List (Op α))
    (y : α) (hy : y ∈ init.toList ++ allOffered ops) :
    ∃ h, (greedyM false c).run init ops = some h ∧ h ∈ init.toList ++ allOffered ops ∧ c.le h y = true := by
  have hinv := (greedy_meets false hp).toKeeps.run_all (fun _ _ => rfl) (GInv.init c hp init) ops
  obtain ⟨h, hh, hle⟩ := hinv.best y hy
  exact ⟨h, hh, hinv.sub h hh, hle⟩

/-- **the short-circuiting fold**: the best known is no worse than every
    individual offered singly and every individual of the *considered prefix* of each batch (up to and including its
    first improving element). The batch elements after the first improving one are not covered —
    see `greedy_short_circuit_add_all_loses_best`. -/
theorem greedy_short_circuit_best_le_all_considered (c : Cfg α) (hp : TotalPreorder c.le) (init : Option α)
    (ops : List (Op α)) (y : α)
    (hy : y ∈ offeredAfter (greedySpec true c) (greedyM true c) init.toList init ops) :
    ∃ h, (greedyM true c).run init ops = some h ∧ c.le h y = true :=
  ((greedy_meets true hp).toKeeps.run ops init.toList init (GInv.init c hp init)).best y hy

set_option linter.unusedSectionVars false in
/-- **the short-circuiting fold, usable form**: when every batch is sorted best-first — in particular when every batch
    has at most one element, which is what a selection size of 1 produces — even that fold keeps the best known no worse
    than every individual ever offered (why the defect did not show with the default selection size 1). -/
theorem greedy_short_circuit_best_le_all_offered_of_sorted_batches (c : Cfg α) (hp : TotalPreorder c.le)
    (ops : List (Op α)) :
    ∀ (init : Option α) (offered : List α), GInv c offered init →
      (∀ xs, Op.addAll xs ∈ ops → xs.Pairwise (fun a b => c.le a b = true)) →
      GInv c (offered ++ allOffered ops) ((greedyM true c).run init ops) := by
  induction ops with
  | nil => intro init offered h _; exact (List.append_nil offered).symm ▸ h
  | cons op ops ih =>
    intro init offered h hs
    rw [allOffered_cons, ← List.append_assoc]
    have hs' : ∀ xs, Op.addAll xs ∈ ops → xs.Pairwise (fun a b => c.le a b = true) :=
      fun xs hx => hs xs (List.mem_cons_of_mem _ hx)
    cases op with
    | add x => exact ih _ _ (h.add hp x) hs'
    | addAll xs => exact ih _ _ (h.addAll_sorted hp xs (hs xs (List.mem_cons_self ..))) hs'
    | gen st => exact ih _ _ ((List.append_nil offered).symm ▸ h) hs'
    | select t => exact ih _ _ ((List.append_nil offered).symm ▸ h) hs'

/-- a total preorder on `Nat` for the examples -/
def natCfg (cap sel : Nat) : Cfg Nat := ⟨fun a b => decide (a ≤ b), fun a b => decide (a = b), fun a b => decide (a = b), cap, sel⟩

theorem natCfg_totalPreorder (cap sel : Nat) : TotalPreorder (natCfg cap sel).le :=
  TotalPreorder.of_rel (fun _ _ _ => Nat.le_trans) Nat.le_total

theorem natCfg_fit (cap sel : Nat) (a b : Nat) :
    (natCfg cap sel).fitEq a b = ((natCfg cap sel).le a b && (natCfg cap sel).le b a) :=
  (decide_eq_decide.mpr Nat.le_antisymm_iff).trans (Bool.decide_and ..)

/-- **counter-witness for the short-circuiting fold** (`corpus/C08/greedy_batch_skips_better.jsonl` replays the input on
    the real code, which has to keep `3`): `add_all([5, 3])` on an empty population keeps `5` and reports an improvement, although `3` was offered in the same
    batch and is strictly better; the exhaustive fold keeps `3`. -/
theorem greedy_short_circuit_add_all_loses_best :
    Greedy.addAll true (natCfg 1 1) none [5, 3] = (some 5, true) ∧
      (natCfg 1 1).le 5 3 = false ∧
      Greedy.addAll false (natCfg 1 1) none [5, 3] = (some 3, true) := by
  decide

example : ∃ h, (greedyM false (natCfg 1 1)).run none [.add 5, .addAll [7, 3, 4], .select ⟨[], 1, []⟩, .add 6] = some h ∧
    h ∈ (none : Option Nat).toList ++ allOffered [Op.add 5, .addAll [7, 3, 4], .select ⟨[], 1, []⟩, .add 6] ∧
    (natCfg 1 1).le h 3 = true :=
  greedy_best_le_all_offered (natCfg 1 1) (natCfg_totalPreorder 1 1) none _ 3 (by decide)

example : (greedyM false (natCfg 1 1)).run none [.add 5, .addAll [7, 3, 4], .select ⟨[], 1, []⟩, .add 6] = some 3 := by
  decide

theorem elitism_trace_meets_spec (c : Cfg α) (hp : TotalPreorder c.le) (hcap : 0 < c.cap)
    (hfit : ∀ a b, c.fitEq a b = (c.le a b && c.le b a)) (ops : List (Op α)) :
    traceOK (elitismSpec c) [] [] .exploitation ((elitismM c).trace ElState.empty ops) = true :=
  (elitism_meets hp hcap hfit).trace ops [] ElState.empty (EInv.nil c) (HypAll_of_forall (fun _ _ _ => trivial) _ _)

theorem elitism_run_inv (c : Cfg α) (hp : TotalPreorder c.le) (hcap : 0 < c.cap) (ops : List (Op α)) :
    EInv c (allOffered ops) ((elitismM c).run ElState.empty ops).inds :=
  (elitism_keeps hp hcap).run_all (offered := []) (fun _ _ => rfl) (EInv.nil c) ops

/-- **after ANY sequence of additions, generation ticks and selections the first ranked individual of an Elitism
    is one of the offered individuals and no worse than every individual ever offered, singly or in a batch** -/
theorem elitism_head_le_all_offered (c : Cfg α) (hp : TotalPreorder c.le) (hcap : 0 < c.cap) (ops : List (Op α))
    (y : α) (hy : y ∈ allOffered ops) :
    ∃ h, ((elitismM c).run ElState.empty ops).inds.head? = some h ∧ h ∈ allOffered ops ∧ c.le h y = true :=
  (elitism_keeps hp hcap).head_le (elitism_run_inv c hp hcap ops) hy

theorem elitism_sorted (c : Cfg α) (hp : TotalPreorder c.le) (hcap : 0 < c.cap) (ops : List (Op α)) :
    ((elitismM c).run ElState.empty ops).inds.Pairwise (fun a b => c.le a b = true) :=
  (elitism_run_inv c hp hcap ops).sorted

theorem elitism_size_le_max (c : Cfg α) (hp : TotalPreorder c.le) (hcap : 0 < c.cap) (ops : List (Op α)) :
    (elitismM c).size ((elitismM c).run ElState.empty ops) ≤ c.cap :=
  (elitism_run_inv c hp hcap ops).len

theorem elitism_select_subset_offered (c : Cfg α) (hp : TotalPreorder c.le) (hcap : 0 < c.cap) (ops : List (Op α))
    (t : Tape α) (x : α) (hx : x ∈ (elitismM c).select ((elitismM c).run ElState.empty ops) t) :
    x ∈ allOffered ops :=
  (elitism_run_inv c hp hcap ops).sub x (Elitism.select_mem c _ _ hx)

set_option linter.unusedSectionVars false in
theorem elitism_select_nonempty_of_nonempty (c : Cfg α) (hsel : 1 ≤ c.selSize) (s : ElState α) (t : Tape α)
    (hne : s.inds ≠ []) :
    (elitismM c).select s t ≠ [] ∧ ((elitismM c).select s t).head? = s.inds.head? :=
  ⟨Elitism.select_ne_nil c s t.picks hsel hne, Elitism.select_head? c s t.picks hsel⟩

set_option linter.unusedSectionVars false in
/-- **`add`/`add_all` return `true` exactly when the best known strictly improved, or appeared**
    (`is_improved` compares the fitness of the old and the new head; `hfit`: equal fitness = equal rank) -/
theorem elitism_add_returns_improved_iff_head_fitness_changed (c : Cfg α) (hp : TotalPreorder c.le) (hcap : 0 < c.cap)
    (hfit : ∀ a b, c.fitEq a b = (c.le a b && c.le b a)) (s : ElState α) (xs : List α) :
    (Elitism.addAll c s xs).2 = true ↔
      (s.inds.head? = none ∧ (Elitism.addAll c s xs).1.inds.head? ≠ none) ∨
        ∃ o n, s.inds.head? = some o ∧ (Elitism.addAll c s xs).1.inds.head? = some n ∧ c.le o n = false := by
  rw [addAll_ret_improved hp hcap hfit, improved_iff]

example : ∃ h, ((elitismM (natCfg 2 2)).run ElState.empty
      [.add 5, .addAll [7, 3, 3, 4], .gen ⟨.slow 4, 10⟩, .select ⟨[1], 1, []⟩, .add 6]).inds.head? = some h ∧
    h ∈ allOffered [Op.add 5, .addAll [7, 3, 3, 4], .gen ⟨.slow 4, 10⟩, .select ⟨[1], 1, []⟩, .add 6] ∧
    (natCfg 2 2).le h 3 = true :=
  elitism_head_le_all_offered (natCfg 2 2) (natCfg_totalPreorder 2 2) (by decide) _ 3 (by decide)

theorem rosomaxa_trace_meets_spec (c : Cfg α) (rc : RCfg) (hp : TotalPreorder c.le) (hcap : 0 < c.cap)
    (hsel : 1 ≤ c.selSize) (hfit : ∀ a b, c.fitEq a b = (c.le a b && c.le b a)) (ops : List (Op α))
    (htapes : HypAll (rosomaxaSpec c) (rosomaxaM c rc) tapeHyp [] RState.empty ops) :
    traceOK (rosomaxaSpec c) [] [] .initial ((rosomaxaM c rc).trace RState.empty ops) = true :=
  (rosomaxa_meets rc hp hcap hsel hfit).trace ops [] RState.empty (RInv.empty c) htapes

set_option linter.unusedSectionVars false in
theorem tapes_ok_without_node_part (c : Cfg α) (rc : RCfg) (ops : List (Op α))
    (h : ∀ t, Op.select t ∈ ops → t.extra = []) :
    ∀ (offered : List α) (s : RState α), HypAll (rosomaxaSpec c) (rosomaxaM c rc) tapeHyp offered s ops :=
  HypAll_of_forall fun offered op hop => by
    cases op with
    | select t => intro x hx; rw [h t hop] at hx; cases hx
    | _ => trivial

example : HypAll (rosomaxaSpec (natCfg 2 2)) (rosomaxaM (natCfg 2 2) ⟨4, 58⟩) tapeHyp [] RState.empty
    [.add 5, .addAll [7, 3, 3, 4], .gen ⟨.unknown, 10⟩, .select ⟨[1, 0], 2, [7, 4]⟩, .add 2] := by
  simp [HypAll, tapeHyp, Spec.offeredBy, rosomaxaSpec]

theorem rosomaxa_run_inv (c : Cfg α) (rc : RCfg) (hp : TotalPreorder c.le) (hcap : 0 < c.cap) (hsel : 1 ≤ c.selSize)
    (ops : List (Op α)) : RInv c (allOffered ops) ((rosomaxaM c rc).run RState.empty ops) :=
  (rosomaxa_keeps rc hp hcap hsel).run_all (offered := []) (fun _ _ => rfl) (RInv.empty c) ops

set_option linter.unusedVariables false in
/-- **after ANY operation sequence the first ranked individual of a Rosomaxa (its elite) is one of the offered
    individuals and no worse than every individual ever offered — including those that the filter
    `is_comparable_with_best_known` kept away from the elite** -/
theorem rosomaxa_elite_head_le_all_offered (c : Cfg α) (rc : RCfg) (hp : TotalPreorder c.le) (hcap : 0 < c.cap)
    (hsel : 1 ≤ c.selSize) (hfit : ∀ a b, c.fitEq a b = (c.le a b && c.le b a)) (ops : List (Op α))
    (y : α) (hy : y ∈ allOffered ops) :
    ∃ h, ((rosomaxaM c rc).ranked ((rosomaxaM c rc).run RState.empty ops)).head? = some h ∧
      h ∈ allOffered ops ∧ c.le h y = true :=
  (rosomaxa_keeps rc hp hcap hsel).head_le (rosomaxa_run_inv c rc hp hcap hsel ops) hy

set_option linter.unusedVariables false in
theorem rosomaxa_sorted_and_size_le_elite_size (c : Cfg α) (rc : RCfg) (hp : TotalPreorder c.le) (hcap : 0 < c.cap)
    (hsel : 1 ≤ c.selSize) (hfit : ∀ a b, c.fitEq a b = (c.le a b && c.le b a)) (ops : List (Op α)) :
    ((rosomaxaM c rc).ranked ((rosomaxaM c rc).run RState.empty ops)).Pairwise (fun a b => c.le a b = true) ∧
      (rosomaxaM c rc).size ((rosomaxaM c rc).run RState.empty ops) ≤ c.cap :=
  let hinv := (rosomaxa_run_inv c rc hp hcap hsel ops).elite
  ⟨hinv.sorted, hinv.len⟩

set_option linter.unusedVariables false in
theorem rosomaxa_select_subset_offered_and_nonempty (c : Cfg α) (rc : RCfg) (hp : TotalPreorder c.le)
    (hcap : 0 < c.cap) (hsel : 1 ≤ c.selSize) (hfit : ∀ a b, c.fitEq a b = (c.le a b && c.le b a))
    (ops : List (Op α)) (t : Tape α) (ht : ∀ x ∈ t.extra, x ∈ allOffered ops) :
    let s := (rosomaxaM c rc).run RState.empty ops
    (∀ x ∈ (rosomaxaM c rc).select s t, x ∈ allOffered ops) ∧
      ((rosomaxaM c rc).size s > 0 → (rosomaxaM c rc).select s t ≠ []) ∧
      (s.phase ≠ .initial → (rosomaxaM c rc).select s t = [] ∨
        ((rosomaxaM c rc).select s t).head? = ((rosomaxaM c rc).ranked s).head?) := by
  obtain ⟨s1, s2, s3⟩ := rosomaxa_select hsel (rosomaxa_run_inv c rc hp hcap hsel ops) t ht
  exact ⟨s1, fun hsz => s2 (List.ne_nil_of_length_pos hsz), s3⟩

set_option linter.unusedSectionVars false in
/-- Initial → Exploration → Exploitation, never back -/
theorem phase_monotone (c : Cfg α) (rc : RCfg) (ops : List (Op α)) :
    ∀ s : RState α, s.phase.rank ≤ ((rosomaxaM c rc).run s ops).phase.rank := by
  induction ops with
  | nil => intro s; exact Nat.le_refl _
  | cons op ops ih =>
    intro s
    exact Nat.le_trans (rosomaxa_step_rank c rc s op) (ih _)

example : ∃ h, ((rosomaxaM (natCfg 2 2) ⟨4, 58⟩).ranked ((rosomaxaM (natCfg 2 2) ⟨4, 58⟩).run RState.empty
      [.add 5, .addAll [7, 3, 3, 4], .gen ⟨.unknown, 10⟩, .add 9, .add 2])).head? = some h ∧
    h ∈ allOffered [Op.add 5, .addAll [7, 3, 3, 4], .gen ⟨.unknown, 10⟩, .add 9, .add 2] ∧
    (natCfg 2 2).le h 2 = true :=
  rosomaxa_elite_head_le_all_offered (natCfg 2 2) ⟨4, 58⟩ (natCfg_totalPreorder 2 2) (by decide) (by decide)
    (natCfg_fit 2 2) _ 2 (by decide)

set_option linter.unusedVariables false in
theorem seeded_solve_never_worse_elitism (c : Cfg α) (hp : TotalPreorder c.le) (hcap : 0 < c.cap)
    (hfit : ∀ a b, c.fitEq a b = (c.le a b && c.le b a)) (initial : List α) (gens : List (List α × Stats))
    (y : α) (hy : y ∈ initial) :
    ∃ h, ((elitismM c).ranked ((elitismM c).run ElState.empty (solveOps initial gens))).head? = some h ∧
      c.le h y = true :=
  (elitism_keeps hp hcap).seeded (EInv.nil c) initial gens hy

set_option linter.unusedVariables false in
theorem seeded_solve_never_worse_rosomaxa (c : Cfg α) (rc : RCfg) (hp : TotalPreorder c.le) (hcap : 0 < c.cap)
    (hsel : 1 ≤ c.selSize) (hfit : ∀ a b, c.fitEq a b = (c.le a b && c.le b a)) (initial : List α)
    (gens : List (List α × Stats)) (y : α) (hy : y ∈ initial) :
    ∃ h, ((rosomaxaM c rc).ranked ((rosomaxaM c rc).run RState.empty (solveOps initial gens))).head? = some h ∧
      c.le h y = true :=
  (rosomaxa_keeps rc hp hcap hsel).seeded (RInv.empty c) initial gens hy

/-- with either fold: initial solutions are offered one by one, and a batch can only replace the best known by a
    strictly better individual -/
theorem seeded_solve_never_worse_greedy (sc : Bool) (c : Cfg α) (hp : TotalPreorder c.le) (initial : List α)
    (gens : List (List α × Stats)) (y : α) (hy : y ∈ initial) :
    ∃ h, ((greedyM sc c).ranked ((greedyM sc c).run none (solveOps initial gens))).head? = some h ∧
      c.le h y = true :=
  (greedy_meets sc hp).toKeeps.seeded (GInv.init c hp none) initial gens hy

example : ∃ h, ((greedyM true (natCfg 1 1)).ranked ((greedyM true (natCfg 1 1)).run none
      (solveOps [9, 4, 6] [([7, 5], ⟨.unknown, 0⟩), ([8, 2, 1], ⟨.moderate, 3⟩)]))).head? = some h ∧
    (natCfg 1 1).le h 4 = true :=
  seeded_solve_never_worse_greedy true (natCfg 1 1) (natCfg_totalPreorder 1 1) _ _ 4 (by decide)

end C08
