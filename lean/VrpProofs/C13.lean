import VrpProofs.C13.Sqrt
import VrpProofs.C13.Solomon
import VrpProofs.C13.Lilim
import VrpProofs.C13.Tsplib
/-!
# C13 — scientific instance files are read faithfully: the property theorems

`readBack decode (parse (print F)) = some (meaning F)` is the statement `model (parse (print I)) = I`: the problem is
observed without location indices (`observe`), and `decodeX` refuses any observation that has not exactly the shape of
an instance; `meaningX` is written from the format description, not from the reader.
-/

namespace C13

/-- parse result → observables → abstract instance; `none` if the reader failed or the shape is not the expected one -/
def readBack (decode : Dump → Option Instance) : Except Err Problem' → Option Instance
  | .ok P => decode (observe P)
  | .error _ => none

theorem readBack_ok {decode : Dump → Option Instance} {res : Except Err Problem'} {P : Problem'} {d : Dump}
    (hP : res = .ok P) (hd : observe P = d) : readBack decode res = decode d := by
  subst hP hd; rfl

/-- **Solomon**: for every well-formed file (any number of customers, duplicate coordinates and zero demands allowed),
    the problem read from its printed form decodes to exactly the file's instance: fleet size, capacity, depot position and
    opening times, and per customer id, position, demand (static delivery), window and service time, in file order. -/
theorem solomon_parse_print (rounded : Bool) (F : SolomonFile) (h : wfSolomon F = true) :
    readBack decodeSolomon (parseSolomon rounded (printSolomon F)) = some (meaningSolomon F) := by
  obtain ⟨P, hP, hobs⟩ := solomon_observe rounded F h
  rw [readBack_ok hP hobs]
  exact decodeDeliveries_dumpOf 0 rounded _ (wfSolomon_facts h).1 rfl

/-- **Li&Lim**: for every well-formed file (rows in any order), the problem decodes to the file's requests: request `k` is
    the `k`-th pickup row joined with the row named in its delivery column; the pickup carries `+demand` (dynamic pickup),
    the delivery `-demand` of the file (stored as a positive dynamic delivery amount). -/
theorem lilim_parse_print (rounded : Bool) (F : LilimFile) (h : wfLilim F = true) :
    readBack decodeLilim (parseLilim rounded (printLilim F)) = some (meaningLilim F) := by
  obtain ⟨P, hP, hobs⟩ := lilim_observe rounded F h
  rw [readBack_ok hP hobs]
  exact decodeLilim_dumpOf rounded _ (wfLilim_facts h).1 _ (custRequests_signs h) (meaningLilim_customers F)
    (meaningLilim_pairs F)

/-- … and the requests of a well-formed Li&Lim file contain every task row exactly once (nothing dropped, nothing doubled) -/
theorem lilim_every_row_once (F : LilimFile) (h : wfLilim F = true) (r : Row) :
    ((requestsOf F.rows).flatMap (fun pd => [pd.1, pd.2])).count r = F.rows.count r :=
  let ⟨_, _, hn, hpk, hdl⟩ := wfLilim_facts h
  requests_complete hn hpk hdl r

/-- **TSPLIB (CVRP, EUC_2D)**: for every well-formed file (sections in any row order, any depot id), the problem decodes
    to: `DIMENSION` vehicles of the file capacity at the depot node's coordinates, and one customer per non-depot node
    (job `id-1` ↦ node `id`) with the node's coordinates and the amount of its demand row. (The real reader iterates a hash
    map; the model lists customers in node-row order and the correspondence compares sorted by id.) -/
theorem tsplib_parse_print (rounded : Bool) (F : TsplibFile) (h : wfTsplib F = true) :
    readBack decodeTsplib (parseTsplib rounded (printTsplib F)) = some (meaningTsplib F) := by
  obtain ⟨P, hP, hobs⟩ := tsplib_observe rounded F h
  rw [readBack_ok hP hobs]
  exact decodeDeliveries_dumpOf 1 rounded _ (wfTsplib_pos h) rfl

/-- **`roundSqrt` is the nearest integer to `√n`, and the nearest integer is unique (a tie would need `4n = (2r+1)²`)** -/
theorem euclid_rounded_correct (n : Nat) :
    IsNearestSqrt n (roundSqrt n) ∧ (∀ r, IsNearestSqrt n r → r = roundSqrt n) ∧ (∀ r, 4 * n ≠ (2 * r + 1) ^ 2) :=
  ⟨roundSqrt_isNearest n, fun r hr => isNearestSqrt_unique n r (roundSqrt n) hr (roundSqrt_isNearest n),
   no_sqrt_tie n⟩

/-- in unrounded mode the observed entry is `⌊√n⌋` and the flag says exactly whether `n` is a perfect square -/
theorem euclid_unrounded_obs (p q : Int × Int) :
    (distObs false p q).1 * (distObs false p q).1 ≤ sqDist p q ∧
    sqDist p q < ((distObs false p q).1 + 1) * ((distObs false p q).1 + 1) ∧
    ((distObs false p q).2 = true ↔ ∃ k, k * k = sqDist p q) := by
  simp only [distObs, Bool.false_eq_true, if_false, beq_iff_eq]
  exact ⟨Nat.sqrt_le _, Nat.lt_succ_sqrt _, Nat.exists_mul_self _ |>.symm⟩

theorem sqDist_eq (p q : Int × Int) : (sqDist p q : Int) = (p.1 - q.1) ^ 2 + (p.2 - q.2) ^ 2 := by
  unfold sqDist
  rw [← sq, ← sq]
  exact Int.toNat_of_nonneg (Int.add_nonneg (Int.sq_nonneg _) (Int.sq_nonneg _))

/-- **the routing matrix of a parsed file is the Euclidean matrix of the file's coordinates** (rounded mode: nearest
    integers), between the depot and the customers in the instance's order — all three formats -/
theorem parsed_distances (rounded : Bool) :
    (∀ F, wfSolomon F = true → ∃ P, parseSolomon rounded (printSolomon F) = .ok P ∧
        (observe P).dist = instDist rounded (meaningSolomon F)) ∧
    (∀ F, wfLilim F = true → ∃ P, parseLilim rounded (printLilim F) = .ok P ∧
        (observe P).dist = instDist rounded (meaningLilim F)) ∧
    (∀ F, wfTsplib F = true → ∃ P, parseTsplib rounded (printTsplib F) = .ok P ∧
        (observe P).dist = instDist rounded (meaningTsplib F)) :=
  ⟨fun F h => (solomon_shows rounded F h).imp fun _ hP => ⟨hP.1, hP.2.dist_eq⟩,
   fun F h => (lilim_shows rounded F h).imp fun _ hP => ⟨hP.1, hP.2.dist_eq⟩,
   fun F h => (tsplib_shows rounded F h).imp fun _ hP => ⟨hP.1, hP.2.dist_eq⟩⟩

/-- **Solomon**: with the parsed demands, the capacity constraint (`dumpAccepts`: load on board at departure and after
    every stop never above the vehicle capacity, as the core feature computes it from the 4-tuples) accepts a tour of
    customer ids iff the file demands of these customers sum to at most the file capacity. -/
theorem capacity_binds_as_file_solomon (rounded : Bool) (F : SolomonFile) (h : wfSolomon F = true)
    (hq : ∀ c ∈ F.customers, 0 ≤ c.demand) :
    ∃ P, parseSolomon rounded (printSolomon F) = .ok P ∧
      ∀ tour, dumpAccepts (observe P) tour = fileAcceptsDelivery (meaningSolomon F) tour := by
  obtain ⟨P, hP, hs⟩ := solomon_shows rounded F h
  have hq' : ∀ c ∈ (meaningSolomon F).customers, 0 ≤ c.demand := fun c hc => by
    obtain ⟨c', hc', rfl⟩ := List.mem_map.mp hc
    exact hq c' hc'
  exact ⟨P, hP, fun tour => by simpa using hs.accepts_delivery hq' tour⟩

/-- **TSPLIB**: the same, tours given by node ids (node `id` is job `id-1`). -/
theorem capacity_binds_as_file_tsplib (rounded : Bool) (F : TsplibFile) (h : wfTsplib F = true)
    (hq : ∀ d ∈ F.demands, 0 ≤ d.2) :
    ∃ P, parseTsplib rounded (printTsplib F) = .ok P ∧
      ∀ tour, dumpAccepts (observe P) (tour.map (· - 1)) = fileAcceptsDelivery (meaningTsplib F) tour := by
  obtain ⟨P, hP, hs⟩ := tsplib_shows rounded F h
  refine ⟨P, hP, hs.accepts_delivery fun c hc => ?_⟩
  obtain ⟨n, _, rfl⟩ := List.mem_map.mp hc
  show 0 ≤ ((F.demands.find? _).map (·.2)).getD 0
  cases hf : F.demands.find? _ with
  | none => exact Int.le_refl 0
  | some e => exact hq e (List.mem_of_find?_eq_some hf)

/-- **Li&Lim**: the capacity constraint accepts a sequence of task ids iff a vehicle that starts empty and applies the
    file's signed demands in that order (positive = picked up, negative = delivered) never exceeds the file capacity.
    This is the statement that a dropped demand dimension or a delivery stored with the wrong sign falsifies (the defect repaired as S5, DESIGN.md). -/
theorem capacity_binds_as_file_lilim (rounded : Bool) (F : LilimFile) (h : wfLilim F = true) :
    ∃ P, parseLilim rounded (printLilim F) = .ok P ∧
      ∀ tour, dumpAccepts (observe P) tour = fileAcceptsPD (meaningLilim F) tour := by
  obtain ⟨P, hP, hs⟩ := lilim_shows rounded F h
  exact ⟨P, hP, fun tour => by simpa using hs.accepts_pd tour⟩

/-- **capacity and time windows together bind as the file says** (all three formats): on the problem read from a printed
    well-formed file, a customer may be appended to a feasible tour (`dumpAppendOk`: loads from the parsed 4-tuples against
    the parsed capacity, arrival from the parsed matrix against the parsed window, return against the parsed shift end)
    exactly when the file's own numbers allow it (`instAppendOk` on the instance the file denotes). The real constraint
    evaluation is compared with `instAppendOk` by the correspondence run (stream `bind`). -/
theorem windows_and_capacity_bind_as_file (rounded : Bool) :
    (∀ F, wfSolomon F = true → ∃ P, parseSolomon rounded (printSolomon F) = .ok P ∧
        ∀ pre target, dumpAppendOk (observe P) pre target = instAppendOk rounded false 0 (meaningSolomon F) pre target) ∧
    (∀ F, wfLilim F = true → ∃ P, parseLilim rounded (printLilim F) = .ok P ∧
        ∀ pre target, dumpAppendOk (observe P) pre target = instAppendOk rounded true 0 (meaningLilim F) pre target) ∧
    (∀ F, wfTsplib F = true → ∃ P, parseTsplib rounded (printTsplib F) = .ok P ∧
        ∀ pre target, dumpAppendOk (observe P) pre target = instAppendOk rounded false 1 (meaningTsplib F) pre target) :=
  ⟨fun F h => (solomon_shows rounded F h).imp fun _ hP => ⟨hP.1, hP.2.dumpAppendOk_eq⟩,
   fun F h => (lilim_shows rounded F h).imp fun _ hP => ⟨hP.1, hP.2.dumpAppendOk_eq⟩,
   fun F h => (tsplib_shows rounded F h).imp fun _ hP => ⟨hP.1, hP.2.dumpAppendOk_eq⟩⟩

/-- **`routes (readInit (write S)) = routes S`** for every complete solution `S` of a problem read from a well-formed
    Solomon or TSPLIB file (and nothing is left unassigned); `readInit_writeSol` is the same for any problem of single jobs. -/
theorem init_text_roundtrip (rounded : Bool) :
    (∀ F routes, wfSolomon F = true → completeSol (F.customers.map (·.id)) F.vehicles routes = true →
      ∃ P, parseSolomon rounded (printSolomon F) = .ok P ∧ readInit P (writeSol routes) = some ⟨routes, []⟩) ∧
    (∀ F routes, wfTsplib F = true →
      completeSol ((F.nodes.filter (fun n => n.1 ≠ F.depot)).map (fun n => n.1 - 1)) F.nodes.length routes = true →
      ∃ P, parseTsplib rounded (printTsplib F) = .ok P ∧ readInit P (writeSol routes) = some ⟨routes, []⟩) :=
  ⟨fun F routes h hc => (solomon_observe rounded F h).imp fun _ hP =>
     ⟨hP.1, readInit_deliveries hP.2 routes (by simp only [meaningSolomon, List.map_map, Function.comp_def, Int.sub_zero]; exact hc)⟩,
   fun F routes h hc => (tsplib_observe rounded F h).imp fun _ hP =>
     ⟨hP.1, readInit_deliveries hP.2 routes (by simp only [meaningTsplib, List.map_map]; exact hc)⟩⟩

/-! ## non-vacuity: concrete files meet the hypotheses, and the statements discriminate -/

/-- three customers, two at the same place, one with zero demand -/
def exSolomon : SolomonFile :=
  { vehicles := 2, capacity := 10, depot := ⟨0, 0, 0, 1000⟩,
    customers := [⟨1, 3, 4, 6, 5, 100, 10⟩, ⟨2, 3, 4, 5, 0, 200, 0⟩, ⟨7, -6, 8, 0, 20, 30, 90⟩] }

example : wfSolomon exSolomon = true := by decide +kernel
example : ∀ c ∈ exSolomon.customers, 0 ≤ c.demand := by decide +kernel
example : completeSol (exSolomon.customers.map (·.id)) exSolomon.vehicles [[2, 7], [1]] = true := by decide +kernel
/-- capacity binds: customers 1 and 2 together (6 + 5 > 10) are rejected, 1 and 7 are accepted -/
example : fileAcceptsDelivery (meaningSolomon exSolomon) [1, 2] = some false ∧
          fileAcceptsDelivery (meaningSolomon exSolomon) [1, 7] = some true := by decide +kernel
/-- a reader that dropped the demands would accept the rejected tour: the capacity statement is not vacuous -/
example : capAccepts 10 [⟨0, 0, 0, 0⟩, ⟨0, 0, 0, 0⟩] = true ∧ capAccepts 10 [static4 6, static4 5] = false := by decide +kernel

/-- the rounded matrix of `exSolomon` (depot, customers 1, 2, 7): 5, 5, 10 from the depot; √97 ≈ 9.85 ↦ 10 between (3,4) and (-6,8) -/
def exDist : List (List (Nat × Bool)) :=
  [[(0, true), (5, true), (5, true), (10, true)], [(5, true), (0, true), (0, true), (10, true)],
   [(5, true), (0, true), (0, true), (10, true)], [(10, true), (10, true), (10, true), (0, true)]]

/-- time windows and capacity bind: customer 7 (window [20, 30], service 90) can be appended to the empty tour and to [1]
    (reached at 10 resp. 25, back at the depot at 120 resp. 120); with the depot closing at 119 it cannot (back at 120);
    customer 2 cannot be appended to [1] (6 + 5 > 10) -/
example :
    let stops := instStops false 0 (meaningSolomon exSolomon)
    appendOk 10 0 (.fin 1000) exDist stops [] 7 = some true ∧ appendOk 10 0 (.fin 1000) exDist stops [1] 7 = some true ∧
    appendOk 10 0 (.fin 119) exDist stops [] 7 = some false ∧ appendOk 10 0 (.fin 1000) exDist stops [1] 2 = some false ∧
    appendOk 10 0 (.fin 1000) exDist stops [1, 2] 7 = none := by
  decide +kernel

/-- two requests, rows interleaved and not sorted -/
def exLilim : LilimFile :=
  { vehicles := 3, capacity := 15, depot := ⟨40, 50, 0, 1236⟩,
    rows := [⟨3, 42, 66, 10, 65, 146, 90, 0, 5⟩, ⟨1, 45, 68, -8, 912, 967, 90, 2, 0⟩,
             ⟨5, 42, 65, -10, 15, 67, 90, 3, 0⟩, ⟨2, 45, 70, 8, 825, 870, 90, 0, 1⟩] }

example : wfLilim exLilim = true := by decide +kernel
/-- picking up both loads before delivering exceeds the capacity (10 + 8 > 15); serving the requests one after the
    other does not; with the delivery sign flipped the second order would be rejected too -/
example : fileAcceptsPD (meaningLilim exLilim) [3, 2, 5, 1] = some false ∧
          fileAcceptsPD (meaningLilim exLilim) [3, 5, 2, 1] = some true := by decide +kernel
example : capAccepts 15 [dynamic4 10, dynamic4 10, dynamic4 8, dynamic4 8] = false := by decide +kernel

/-- depot is node 2, demand rows in another order than the node rows -/
def exTsplib : TsplibFile :=
  { capacity := 30, nodes := [(1, 38, 46), (2, 59, 46), (3, 96, 42), (4, 59, 46)],
    demands := [(4, 1), (1, 16), (2, 0), (3, 18)], depot := 2 }

example : wfTsplib exTsplib = true := by decide +kernel
example : ∀ d ∈ exTsplib.demands, 0 ≤ d.2 := by decide +kernel
example : fileAcceptsDelivery (meaningTsplib exTsplib) [1, 3] = some false ∧
          fileAcceptsDelivery (meaningTsplib exTsplib) [1, 4] = some true := by decide +kernel
example : completeSol ((exTsplib.nodes.filter (fun n => n.1 ≠ exTsplib.depot)).map (fun n => n.1 - 1))
            exTsplib.nodes.length [[3, 0], [], [2]] = true := by decide +kernel

/-- rounding: √2 ≈ 1.41 ↦ 1, √3 ≈ 1.73 ↦ 2, √12 ≈ 3.46 ↦ 3, √13 ≈ 3.61 ↦ 4 (floor would give 1, 1, 3, 3) -/
example : roundSqrt 2 = 1 ∧ roundSqrt 3 = 2 ∧ roundSqrt 12 = 3 ∧ roundSqrt 13 = 4 ∧ roundSqrt 0 = 0 ∧ roundSqrt 25 = 5 := by
  refine ⟨?_, ?_, ?_, ?_, ?_, ?_⟩ <;>
    -- through uniqueness: each value is checked to be a nearest integer
    (symm; apply (euclid_rounded_correct _).2.1; unfold IsNearestSqrt; decide)

end C13
