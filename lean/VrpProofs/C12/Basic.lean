import VrpModel.C12
/-!
# C12 — what the helper definitions of the checker model do

The model is import-free and brings its own `countP`, `sumInt`, `hasDup`, `dedup`, `isSubseq`, `isPrefix`, `isInfix`. Each is
tied once to the library's notion; every further fact about them is then the library's.
-/

namespace C12
open Spec

theorem firstErrOf_eq_none {α} (f : α → Option Code) (l : List α) :
    firstErrOf f l = none ↔ ∀ x ∈ l, f x = none := by
  induction l with
  | nil => simp [firstErrOf]
  | cons x rest ih =>
    simp only [firstErrOf, List.mem_cons, forall_eq_or_imp]
    cases h : f x with
    | none => simp [ih]
    | some c => simp

/-- the sub-checks are chains of tests `if cond then some code else rest` (in the folds: `.error code`): the chain accepts
iff the condition fails and the rest accepts -/
theorem ite_some_else_eq_none {p : Prop} [Decidable p] {c : Code} {e : Option Code} :
    (if p then some c else e) = none ↔ ¬ p ∧ e = none := by
  split <;> simp [*]

theorem ite_error_else_eq_ok {ε α} {p : Prop} [Decidable p] {c : ε} {e : Except ε α} {r : α} :
    (if p then .error c else e) = .ok r ↔ ¬ p ∧ e = .ok r := by
  split <;> simp [*]

theorem ite_some_eq_none {b : Bool} {c : Code} : (if b = true then some c else none) = none ↔ b = false := by
  rw [ite_some_else_eq_none]; simp

/-- left: the model's `countP`, right: `List.countP` -/
theorem countP_eq_countP {α} (p : α → Bool) (l : List α) : countP p l = List.countP p l := by
  induction l with
  | nil => rfl
  | cons x l ih => rw [countP, ih, List.countP_cons, Nat.add_comm]

theorem countP_le_length {α} (p : α → Bool) (l : List α) : countP p l ≤ l.length := by
  rw [countP_eq_countP]; exact List.countP_le_length

theorem countP_append {α} (p : α → Bool) (a b : List α) : countP p (a ++ b) = countP p a + countP p b := by
  simp only [countP_eq_countP, List.countP_append]

theorem countP_map {α β} (p : β → Bool) (f : α → β) (l : List α) : countP p (l.map f) = countP (fun x => p (f x)) l := by
  simp only [countP_eq_countP, List.countP_map]; rfl

theorem countP_pos_iff {α} (p : α → Bool) (l : List α) : 0 < countP p l ↔ ∃ x ∈ l, p x = true := by
  rw [countP_eq_countP]; exact List.countP_pos_iff

theorem countP_congr {α} (p q : α → Bool) (l : List α) (h : ∀ x ∈ l, p x = q x) : countP p l = countP q l := by
  simp only [countP_eq_countP]; exact List.countP_congr fun x hx => by rw [h x hx]

theorem countP_or_disjoint {α} (p q : α → Bool) (l : List α) (h : ∀ x ∈ l, ¬ (p x = true ∧ q x = true)) :
    countP (fun x => p x || q x) l = countP p l + countP q l := by
  induction l with
  | nil => rfl
  | cons x rest ih =>
    have hx := h x (by simp)
    simp only [countP, ih fun y hy => h y (by simp [hy])]
    by_cases hp : p x = true <;> by_cases hq : q x = true <;> simp [hp, hq] at hx ⊢ <;> omega

theorem sumInt_eq_sum (l : List Int) : sumInt l = l.sum := by
  induction l with
  | nil => rfl
  | cons x l ih => rw [sumInt, ih, List.sum_cons]

theorem sumInt_append (a b : List Int) : sumInt (a ++ b) = sumInt a + sumInt b := by
  simp only [sumInt_eq_sum, List.sum_append_int]

theorem sumInt_map_zero {α} (l : List α) (f : α → Int) (h : ∀ x ∈ l, f x = 0) : sumInt (l.map f) = 0 := by
  induction l with
  | nil => rfl
  | cons x rest ih =>
    rw [List.map_cons, sumInt, h x (by simp), ih fun y hy => h y (by simp [hy])]
    rfl

theorem sumInt_flatMap {α β} (l : List α) (f : α → List β) (g : β → Int) :
    sumInt ((l.flatMap f).map g) = sumInt (l.map (fun x => sumInt ((f x).map g))) := by
  induction l with
  | nil => rfl
  | cons x rest ih => simp only [List.flatMap_cons, List.map_append, sumInt_append, List.map_cons, sumInt, ih]

theorem le_sum_of_mem {α} (l : List α) (f : α → Nat) (c : α) (hc : c ∈ l) : f c ≤ (l.map f).sum := by
  induction l with
  | nil => simp at hc
  | cons y r ih =>
    simp only [List.map_cons, List.sum_cons, List.mem_cons] at *
    rcases hc with rfl | hc
    · lia
    · have := ih hc; lia

theorem sum_ge_two {α} (l : List α) (f : α → Nat) (a b : α) (ha : a ∈ l) (hb : b ∈ l) (hne : a ≠ b) :
    f a + f b ≤ (l.map f).sum := by
  induction l with
  | nil => simp at ha
  | cons x rest ih =>
    simp only [List.map_cons, List.sum_cons, List.mem_cons] at *
    rcases ha with rfl | ha <;> rcases hb with rfl | hb
    · exact absurd rfl hne
    · have := le_sum_of_mem rest f b hb; lia
    · have := le_sum_of_mem rest f a ha; lia
    · have := ih ha hb; lia

theorem hasDup_eq_false_iff_nodup {α} [BEq α] [LawfulBEq α] (l : List α) : hasDup l = false ↔ l.Nodup := by
  induction l with
  | nil => simp [hasDup]
  | cons x rest ih => simp [hasDup, ih]

theorem hasDup_eq_false_iff_countP_le_one {α} [BEq α] [LawfulBEq α] (l : List α) :
    hasDup l = false ↔ ∀ x, countP (fun y => y == x) l ≤ 1 := by
  simp only [hasDup_eq_false_iff_nodup, List.nodup_iff_count, countP_eq_countP]
  rfl

theorem mem_dedup {α} [BEq α] [LawfulBEq α] (x : α) (l : List α) : x ∈ dedup l ↔ x ∈ l := by
  induction l with
  | nil => simp [dedup]
  | cons y rest ih =>
    simp only [dedup, List.mem_cons, List.mem_filter, ih, Bool.not_eq_true', beq_eq_false_iff_ne]
    by_cases hxy : x = y <;> simp [hxy]

theorem nodup_dedup {α} [BEq α] [LawfulBEq α] (l : List α) : (dedup l).Nodup := by
  induction l with
  | nil => exact List.nodup_nil
  | cons x rest ih =>
    rw [dedup, List.nodup_cons]
    exact ⟨by simp [List.mem_filter], ih.sublist List.filter_sublist⟩

theorem hasDup_dedup {α} [BEq α] [LawfulBEq α] (l : List α) : hasDup (dedup l) = false :=
  (hasDup_eq_false_iff_nodup _).2 (nodup_dedup l)

theorem dedup_eq_self {α} [BEq α] [LawfulBEq α] (l : List α) (h : hasDup l = false) : dedup l = l := by
  induction l with
  | nil => rfl
  | cons x rest ih =>
    obtain ⟨hx, hr⟩ := List.nodup_cons.1 ((hasDup_eq_false_iff_nodup _).1 h)
    rw [dedup, ih ((hasDup_eq_false_iff_nodup _).2 hr), List.filter_eq_self.2]
    intro y hy
    simpa using fun e : y = x => hx (e ▸ hy)

/-- partition by counting: `A ++ U` is a permutation of `J` -/
theorem partition_count {α} [BEq α] [LawfulBEq α] (J A U : List α) (hJ : hasDup J = false) (hA : hasDup A = false)
    (hU : hasDup U = false) (hAJ : ∀ a ∈ A, a ∈ J) (hUJ : ∀ u ∈ U, u ∈ J)
    (hx : ∀ j ∈ J, (j ∈ A ∧ ¬ j ∈ U) ∨ (¬ j ∈ A ∧ j ∈ U)) : A.length + U.length = J.length := by
  rw [hasDup_eq_false_iff_nodup] at hJ hA hU
  have hAU : (A ++ U).Nodup :=
    List.nodup_append.2 ⟨hA, hU, fun a ha u hu e => by
      subst e
      rcases hx a (hAJ a ha) with ⟨_, h⟩ | ⟨h, _⟩
      · exact h hu
      · exact h ha⟩
  rw [← List.length_append]
  refine ((List.perm_ext_iff_of_nodup hAU hJ).2 fun j => ?_).length_eq
  rw [List.mem_append]
  constructor
  · rintro (h | h)
    · exact hAJ j h
    · exact hUJ j h
  · intro hj
    rcases hx j hj with ⟨h, _⟩ | ⟨_, h⟩
    · exact Or.inl h
    · exact Or.inr h

theorem maxNat_le (ps : List Nat) (m : Nat) (h : ∀ p ∈ ps, p ≤ m) : maxNat ps ≤ m := by
  induction ps with
  | nil => simp [maxNat]
  | cons x rest ih =>
    have := h x (by simp)
    have := ih fun p hp => h p (by simp [hp])
    simp only [maxNat]
    omega

theorem le_maxNat (l : List Nat) (x : Nat) (h : x ∈ l) : x ≤ maxNat l := by
  induction l with
  | nil => simp at h
  | cons y rest ih =>
    simp only [maxNat, List.mem_cons] at *
    rcases h with rfl | h
    · lia
    · have := ih h; lia

theorem le_minNat (ds : List Nat) (m : Nat) (hne : ds ≠ []) (h : ∀ d ∈ ds, m ≤ d) : m ≤ minNat ds := by
  induction ds with
  | nil => exact absurd rfl hne
  | cons x rest ih =>
    cases rest with
    | nil => simpa [minNat] using h x (by simp)
    | cons y r =>
      have := h x (by simp)
      have := ih (by simp) fun d hd => h d (by simp [hd])
      simp only [minNat]
      omega

theorem findJob_some (P : Problem) (id : String) (j : Job) (h : findJob P id = some j) : j ∈ P.jobs ∧ j.id = id :=
  ⟨List.mem_of_find?_eq_some h, by simpa using List.find?_some h⟩

theorem findJob_of_isSome (P : Problem) (id : String) (h : (findJob P id).isSome = true) :
    ∃ j, findJob P id = some j ∧ j ∈ P.jobs ∧ j.id = id := by
  cases hf : findJob P id with
  | none => simp [hf] at h
  | some j => exact ⟨j, rfl, findJob_some P id j hf⟩

theorem findTour_some (S : Solution) (vid : String) (sh : Nat) (t : Tour) (h : findTour S vid sh = some t) :
    t ∈ S.tours ∧ t.vehicleId = vid ∧ t.shiftIndex = sh := by
  have := List.find?_some h
  simp only [Bool.and_eq_true, beq_iff_eq] at this
  exact ⟨List.mem_of_find?_eq_some h, this.1, this.2⟩

theorem shiftOf_mem (P : Problem) (t : Tour) (v : VType) (sh : Shift)
    (hv : findVehicle P t.vehicleId = some v) (hs : shiftOf P t = some sh) : sh ∈ v.shifts := by
  unfold shiftOf at hs
  simp only [hv, Option.bind_some] at hs
  exact List.mem_of_getElem? hs

theorem shiftAgrees_unpack (P : Problem) (t : Tour) (sh : Shift) (hs : shiftOf P t = some sh)
    (h : shiftAgrees P t = true) : vehicleShift P t = .ok sh := by
  unfold shiftAgrees at h
  rw [hs] at h
  cases hv : vehicleShift P t with
  | error c => simp [hv] at h
  | ok b => simp [hv] at h; rw [h]

theorem shiftOf_of_agrees (P : Problem) (t : Tour) (h : shiftAgrees P t = true) :
    ∃ sh, shiftOf P t = some sh ∧ vehicleShift P t = .ok sh := by
  cases hs : shiftOf P t with
  | none => simp [shiftAgrees, hs] at h
  | some sh => exact ⟨sh, rfl, shiftAgrees_unpack P t sh hs h⟩

theorem isSubseq_iff_sublist (xs l : List String) : isSubseq xs l = true ↔ xs.Sublist l := by
  induction l generalizing xs with
  | nil => cases xs <;> simp [isSubseq]
  | cons y ys ih =>
    cases xs with
    | nil => simp [isSubseq]
    | cons x xs =>
      simp only [isSubseq]
      split
      · rename_i h
        rw [ih, eq_of_beq h, List.cons_sublist_cons]
      · rename_i h
        rw [ih, List.sublist_cons_iff]
        exact ⟨Or.inl, fun h' => h'.elim id fun ⟨_, e, _⟩ => absurd (by simpa using (List.cons.inj e).1) h⟩

theorem isPrefix_iff_prefix (xs l : List String) : isPrefix xs l = true ↔ List.IsPrefix xs l := by
  induction xs generalizing l with
  | nil => simp [isPrefix]
  | cons x xs ih => cases l <;> simp [isPrefix, ih]

theorem isInfix_iff_infix (xs l : List String) : isInfix xs l = true ↔ List.IsInfix xs l := by
  induction l with
  | nil => simp [isInfix]
  | cons y ys ih => simp only [isInfix, Bool.or_eq_true, isPrefix_iff_prefix, ih, List.infix_cons_iff]

end C12
