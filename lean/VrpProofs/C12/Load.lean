import VrpProofs.C12.Basic
/-!
# C12 — the load group of the checker against the positional load formula

Loads are compared as functions of the dimension (`lget`: zero padded). The folds of `check_vehicle_load_assignment` are
computed per dimension for activities on which the code's view (activity type, demand kind) and the specification's
`actDelta` agree (`ActCorr`); likewise `check_resource_consumption` against `Spec.drawn`.
-/

namespace C12
open Spec

/-! ## zero padded vectors -/

def lget (l : Load) (d : Nat) : Int := l.getD d 0

theorem lget_nil (d : Nat) : lget [] d = 0 := by simp [lget]

theorem lget_cons_zero (x : Int) (l : Load) : lget (x :: l) 0 = x := by simp [lget]

theorem lget_cons_succ (x : Int) (l : Load) (d : Nat) : lget (x :: l) (d + 1) = lget l d := by simp [lget]

theorem lget_of_length_le (l : Load) (d : Nat) (h : l.length ≤ d) : lget l d = 0 := by
  unfold lget
  rw [List.getD_eq_getElem?_getD, List.getElem?_eq_none h]; rfl

/-- a statement about all dimensions is one about dimension 0 and one about the shifted dimensions: with
`lget_cons_zero` / `lget_cons_succ` this is how every fact below passes from `x :: l` to `l` -/
theorem forall_dim {p : Nat → Prop} : (∀ d, p d) ↔ p 0 ∧ ∀ d, p (d + 1) :=
  ⟨fun h => ⟨h 0, fun d => h (d + 1)⟩, fun h d => by cases d with | zero => exact h.1 | succ d => exact h.2 d⟩

theorem lget_ladd (a b : Load) (d : Nat) : lget (ladd a b) d = lget a d + lget b d := by
  induction a generalizing b d with
  | nil => simp [ladd, lget_nil]
  | cons x a ih =>
    cases b with
    | nil => simp [ladd, lget_nil]
    | cons y b => cases d <;> simp [ladd, lget_cons_zero, lget_cons_succ, ih]

theorem lget_lneg (a : Load) (d : Nat) : lget (lneg a) d = - lget a d := by
  induction a generalizing d with
  | nil => simp [lneg, lget_nil]
  | cons x a ih =>
    cases d with
    | zero => simp [lneg, lget_cons_zero]
    | succ d => simpa [lneg, lget_cons_succ] using ih d

theorem lget_lsub (a b : Load) (d : Nat) : lget (lsub a b) d = lget a d - lget b d := by
  induction a generalizing b d with
  | nil => cases b <;> simp [lsub, lget_nil, lget_lneg]
  | cons x a ih =>
    cases b with
    | nil => simp [lsub, lget_nil]
    | cons y b => cases d <;> simp [lsub, lget_cons_zero, lget_cons_succ, ih]

theorem all_iff_lget (q : Int → Bool) (h0 : q 0 = true) (l : Load) : l.all q = true ↔ ∀ d, q (lget l d) = true := by
  induction l with
  | nil => simp [lget_nil, h0]
  | cons x l ih => rw [forall_dim]; simp only [List.all_cons, Bool.and_eq_true, ih, lget_cons_zero, lget_cons_succ]

/-- `capacity.can_fit(load)` -/
theorem lfit_iff (c l : Load) : lfit c l = true ↔ ∀ d, lget l d ≤ lget c d := by
  induction c generalizing l with
  | nil => simp only [lfit, all_iff_lget (fun x => decide (x ≤ 0)) (by decide), decide_eq_true_eq, lget_nil]
  | cons c cs ih =>
    cases l with
    | nil => simp only [lfit, all_iff_lget (fun x => decide (0 ≤ x)) (by decide), decide_eq_true_eq, lget_nil]
    | cons x xs =>
      rw [forall_dim]
      simp only [lfit, Bool.and_eq_true, decide_eq_true_eq, ih, lget_cons_zero, lget_cons_succ]

theorem leqPad_iff (a b : Load) : leqPad a b = true ↔ ∀ d, lget a d = lget b d := by
  induction a generalizing b with
  | nil =>
    simp only [leqPad, all_iff_lget (fun x => x == 0) (by decide), beq_iff_eq, lget_nil]
    exact forall_congr' fun d => eq_comm
  | cons x a ih =>
    cases b with
    | nil => simp only [leqPad, all_iff_lget (fun x => x == 0) (by decide), beq_iff_eq, lget_nil]
    | cons y b =>
      rw [forall_dim]
      simp only [leqPad, Bool.and_eq_true, beq_iff_eq, ih, lget_cons_zero, lget_cons_succ]

/-- the `==` of `MultiDimLoad`: dimension-wise equality, except that two empty loads are unequal -/
theorem leq_iff (a b : Load) : leq a b = true ↔ ¬ (a = [] ∧ b = []) ∧ ∀ d, lget a d = lget b d := by
  unfold leq
  rw [Bool.and_eq_true, leqPad_iff]
  cases a <;> cases b <;> simp

/-! ## the reload intervals of a tour (`get_intervals`) -/

theorem splitGo_flatten (cur rest : List Stop) : (splitGo cur rest).flatten = cur.reverse ++ rest := by
  induction rest generalizing cur with
  | nil => simp [splitGo]
  | cons s rest ih =>
    simp only [splitGo]
    split
    · simp [ih]
    · simp [ih]

theorem intervals_cover (stops : List Stop) (ivs : List (List Stop)) (h : intervals stops = some ivs)
    (h2 : 2 ≤ stops.length) : ivs.flatten = stops ∧ ∀ iv ∈ ivs, 2 ≤ iv.length := by
  unfold intervals at h
  cases stops with
  | nil => simp at h2
  | cons s0 rest =>
    cases rest with
    | nil => simp at h2
    | cons s1 rest =>
      simp only at h
      split at h
      · simp at h
      · rename_i hall
        simp only [Option.some.injEq] at h
        subst h
        refine ⟨by simp [splitGo_flatten], ?_⟩
        intro iv hiv
        simp only [List.any_eq_true, decide_eq_true_eq, not_exists, not_and, Nat.not_lt] at hall
        exact hall iv hiv

theorem intervals_of_short (stops : List Stop) (ivs : List (List Stop)) (h : intervals stops = some ivs)
    (h2 : ¬ 2 ≤ stops.length) : ivs = [] := by
  unfold intervals at h
  cases stops with
  | nil => simpa using h.symm
  | cons s0 rest =>
    cases rest with
    | nil => simpa using h.symm
    | cons s1 r => simp at h2

theorem intervals_mem (stops : List Stop) (ivs : List (List Stop)) (h : intervals stops = some ivs) :
    ∀ iv ∈ ivs, ∀ s ∈ iv, s ∈ stops := by
  intro iv hiv s hs
  by_cases h2 : 2 ≤ stops.length
  · rw [← (intervals_cover stops ivs h h2).1]
    exact List.mem_flatten.2 ⟨iv, hiv, hs⟩
  · rw [intervals_of_short stops ivs h h2] at hiv
    cases hiv

theorem legsGo_fits (P : Problem) (t : Tour) (cap ep : Load) (acc : Load) (from_ : Stop) (rest : List Stop) (r : Load)
    (h : legsGo P t cap ep acc from_ rest = .ok r) (hne : rest ≠ []) : ∀ s ∈ from_ :: rest, lfit cap s.load = true := by
  induction rest generalizing acc from_ with
  | nil => exact absurd rfl hne
  | cons to rest ih =>
    rw [legsGo] at h
    split at h
    · cases h
    next hfit =>
      simp only [Bool.or_eq_true, Bool.not_eq_true', not_or, Bool.not_eq_false] at hfit
      split at h
      · cases h
      · split at h
        · intro s hs
          rcases List.mem_cons.1 hs with rfl | hs
          · exact hfit.1
          · cases rest with
            | nil => rw [List.mem_singleton.1 hs]; exact hfit.2
            | cons x xs => exact ih _ _ h (by simp) s hs
        · cases h

theorem intervalsGo_fits (P : Problem) (t : Tour) (cap : Load) (acc : Load) (ivs : List (List Stop))
    (hlen : ∀ iv ∈ ivs, 2 ≤ iv.length) (r : Unit) (h : intervalsGo P t cap acc ivs = .ok r) :
    ∀ iv ∈ ivs, ∀ s ∈ iv, lfit cap s.load = true := by
  induction ivs generalizing acc with
  | nil => nofun
  | cons iv0 rest ih =>
    rw [intervalsGo] at h
    split at h
    · cases h
    next sd ep _ =>
      cases iv0 with
      | nil => simpa using hlen [] (by simp)
      | cons s0 tl =>
        dsimp only at h
        split at h
        · cases h
        · split at h
          · cases h
          next endCap hlegs =>
            intro iv hiv
            rcases List.mem_cons.1 hiv with rfl | hiv
            · exact legsGo_fits P t cap ep _ s0 tl endCap hlegs fun e => by simpa [e] using hlen (s0 :: tl) (by simp)
            · exact ih _ (fun iv' h' => hlen iv' (by simp [h'])) h iv hiv

/-! ## the folds of `check_vehicle_load_assignment` -/

/-- the specification's per-activity triple for the code's demand kind -/
def deltaOf (k : DKind) (x : Int) : Int × Int × Int :=
  match k with
  | .sDelivery => (x, 0, 0)
  | .sPickup => (0, x, 0)
  | .dPickup => (0, 0, x)
  | .dDelivery => (0, 0, -x)
  | .none => (0, 0, 0)
  | .sBoth => (x, x, 0)

/-- the code's view of an activity (type lookup and demand) and the specification's view coincide; `k ≠ .sBoth`:
replacement activities are refused by `actsKnown` -/
def ActCorr (P : Problem) (t : Tour) (s : Stop) (a : Act) : Prop :=
  ∃ aty k dem, activityType P t s a = .ok aty ∧ demandOf a aty = .ok (k, dem) ∧ k ≠ .sBoth ∧
    (∀ d, actDelta P a d = deltaOf k (lget dem d)) ∧ ((a.ty = .arrival ∨ a.ty = .reload) → k = .none)

theorem taskOf_eq_some (P : Problem) (a : Act) (j : Job) (tk : Task) (h : taskOf P a = some (j, tk)) :
    findJob P a.jobId = some j ∧ matchTask a j = .ok tk := by
  unfold taskOf at h
  cases hf : findJob P a.jobId with
  | none => simp [hf] at h
  | some j' =>
    cases hm : matchTask a j' with
    | error c => simp [hf, hm] at h
    | ok tk' =>
      simp only [hf, hm, Option.some.injEq, Prod.mk.injEq] at h
      obtain ⟨rfl, rfl⟩ := h
      exact ⟨rfl, hm⟩

theorem matchTask_mem (a : Act) (j : Job) (tk : Task) (h : matchTask a j = .ok tk) : tk ∈ j.tasks := by
  -- both arms pick, for the kind `k` of the activity, a member of `tasksOf j k`: by `head?` resp. by `find?`
  have key : ∀ F : _ → Option Task, (∀ k t0, F k = some t0 → t0 ∈ tasksOf j k) →
      (match (kindOfTy a.ty).bind F with | none => Except.error Code.no_place | some t => .ok t) = .ok tk →
      tk ∈ j.tasks := by
    intro F hF h
    cases hb : (kindOfTy a.ty).bind F with
    | none => simp [hb] at h
    | some t0 =>
      obtain rfl : t0 = tk := by simpa [hb] using h
      obtain ⟨k, _, hk⟩ := Option.bind_eq_some_iff.1 hb
      exact (List.mem_filter.1 (hF k _ hk)).1
  unfold matchTask at h
  simp only at h
  split at h
  · exact key _ (fun k t0 => List.mem_of_head?) h
  · split at h
    · cases h
    · exact key _ (fun k t0 => List.mem_of_find?_eq_some) h
/-- each arm of `activityType` returns a fixed constructor, so the type found tells the activity's `ty` -/
theorem activityType_ty (P : Problem) (t : Tour) (s : Stop) (a : Act) (aty : AType)
    (h : activityType P t s a = .ok aty) :
    match aty with
    | .job _ => isJobTy a.ty = true
    | .reload _ => a.ty = .reload
    | .brk _ => a.ty = .brk
    | .terminal => a.ty = .departure ∨ a.ty = .arrival := by
  unfold activityType at h
  cases hsh : vehicleShift P t with
  | error c => simp [hsh] at h
  | ok shift =>
    simp only [hsh] at h
    cases hty : a.ty <;> simp only [hty] at h <;> (try split at h) <;> simp at h <;> subst h <;> simp [isJobTy]

theorem actDelta_nonjob (P : Problem) (a : Act) (d : Nat) (h1 : a.ty ≠ .delivery) (h2 : a.ty ≠ .pickup) :
    actDelta P a d = (0, 0, 0) := by
  unfold actDelta
  cases taskOf P a with
  | none => rfl
  | some jt => cases hty : a.ty <;> simp_all

theorem actCorr_none (P : Problem) (t : Tour) (s : Stop) (a : Act) (aty : AType)
    (hat : activityType P t s a = .ok aty) (hj : isJobTy a.ty = false) : ActCorr P t s a := by
  have hk : dkind false a.ty = .none := by cases hty : a.ty <;> simp_all [dkind, isJobTy]
  refine ⟨aty, .none, [], hat, ?_, by simp, fun d => ?_, fun _ => rfl⟩
  · cases aty with
    | job j => rw [(activityType_ty P t s a _ hat : isJobTy a.ty = true)] at hj; cases hj
    | _ => simp [demandOf, hk]
  · rw [actDelta_nonjob P a d (by intro h; simp [h, isJobTy] at hj) (by intro h; simp [h, isJobTy] at hj)]; rfl

theorem actCorr_job (P : Problem) (t : Tour) (s : Stop) (a : Act) (shift : Shift) (j : Job) (tk : Task)
    (hsh : vehicleShift P t = .ok shift) (hty : a.ty = .pickup ∨ a.ty = .delivery ∨ a.ty = .service)
    (htk : taskOf P a = some (j, tk)) : ActCorr P t s a := by
  obtain ⟨hf, hm⟩ := taskOf_eq_some P a j tk htk
  refine ⟨.job j, dkind (isDynamic j) a.ty, tk.demand, ?_, by simp [demandOf, hm], ?_, fun d => ?_, ?_⟩
  -- in turn: the lookup finds the job; the kind is not `sBoth`; `dkind` and the demand give the specification's triple; no unloading
  · rcases hty with hty | hty | hty <;> simp [activityType, hsh, hty, hf]
  · rcases hty with hty | hty | hty <;> cases isDynamic j <;> simp [dkind, hty]
  · rcases hty with hty | hty | hty <;> cases hdyn : isDynamic j <;> simp [actDelta, htk, hty, hdyn, dkind, deltaOf, lget]
  · rcases hty with hty | hty | hty <;> simp [hty]

theorem actCorr_of_known (P : Problem) (t : Tour) (hk : actsKnown P t = true) (s : Stop) (hs : s ∈ t.stops)
    (a : Act) (ha : a ∈ s.acts) : ActCorr P t s a := by
  simp only [actsKnown, Bool.and_eq_true, List.all_eq_true] at hk
  have hka := hk.2 s hs a ha
  cases hsh : vehicleShift P t with
  | error c => simp [hsh, Except.toOption] at hk
  | ok shift =>
    cases hty : a.ty with
    | departure | arrival => exact actCorr_none P t s a .terminal (by simp [activityType, hsh, hty]) (by simp [hty, isJobTy])
    | pickup | delivery | service =>
      simp only [hty] at hka
      cases htk : taskOf P a with
      | none => simp [htk] at hka
      | some jt => exact actCorr_job P t s a shift jt.1 jt.2 hsh (by simp [hty]) htk
    | brk | reload =>
      simp only [hty] at hka
      cases hat : activityType P t s a with
      | error c => simp [hat, Except.toOption] at hka
      | ok aty => exact actCorr_none P t s a aty hat (by simp [hty, isJobTy])
    | replacement | recharge | other => simp [hty] at hka

theorem sumStops_append (f : Stop → Int) (a b : List Stop) : sumStops f (a ++ b) = sumStops f a + sumStops f b := by
  simp [sumStops, sumInt_append]

theorem sumStops_cons (f : Stop → Int) (x : Stop) (l : List Stop) : sumStops f (x :: l) = f x + sumStops f l := by
  simp [sumStops, sumInt]

theorem sumStops_nil (f : Stop → Int) : sumStops f [] = 0 := rfl

theorem sumStops_zero (f : Stop → Int) (l : List Stop) (h : ∀ s, f s = 0) : sumStops f l = 0 :=
  sumInt_map_zero l f fun s _ => h s

theorem sum_stopActs (g : Act → Int) (iv : List Stop) :
    sumInt ((stopActs iv).map (fun p => g p.2)) = sumStops (fun s => sumInt (s.acts.map g)) iv := by
  unfold stopActs sumStops
  rw [sumInt_flatMap]
  simp [List.map_map, Function.comp_def]

/-- the `(start_delivery, end_pickup)` fold -/
theorem sumsGo_ok (P : Problem) (t : Tour) (L : List (Stop × Act)) (acc : Load × Load)
    (hc : ∀ p ∈ L, ActCorr P t p.1 p.2) :
    ∃ r, sumsGo P t acc L = .ok r ∧
      (∀ d, lget r.1 d = lget acc.1 d + sumInt (L.map (fun p => (actDelta P p.2 d).1))) ∧
      (∀ d, lget r.2 d = lget acc.2 d + sumInt (L.map (fun p => (actDelta P p.2 d).2.1))) := by
  induction L generalizing acc with
  | nil => exact ⟨acc, rfl, by simp [sumInt], by simp [sumInt]⟩
  | cons p rest ih =>
    obtain ⟨aty, k, dem, hat, hdem, _, hdelta, _⟩ := hc p (by simp)
    simp only [sumsGo, hat, hdem]
    refine (ih _ fun p hp => hc p (by simp [hp])).imp fun r ⟨hr, h1, h2⟩ => ⟨hr, fun d => ?_, fun d => ?_⟩
    · rw [h1 d, List.map_cons, sumInt, hdelta d]
      cases k <;> simp only [deltaOf, lget_ladd, Int.zero_add, Int.add_assoc]
    · rw [h2 d, List.map_cons, sumInt, hdelta d]
      cases k <;> simp only [deltaOf, lget_ladd, Int.zero_add, Int.add_assoc]

/-- net change of the load by a list of activities, per dimension -/
def netOf (P : Problem) (d : Nat) (acts : List Act) : Int :=
  - sumInt (acts.map (fun a => (actDelta P a d).1)) + sumInt (acts.map (fun a => (actDelta P a d).2.1))
  + sumInt (acts.map (fun a => (actDelta P a d).2.2))

theorem netOf_cons (P : Problem) (d : Nat) (a : Act) (acts : List Act) :
    netOf P d (a :: acts) = (- (actDelta P a d).1 + (actDelta P a d).2.1 + (actDelta P a d).2.2) + netOf P d acts := by
  simp only [netOf, List.map_cons, sumInt]; lia

/-- the `start_load` fold -/
theorem startGo_ok (P : Problem) (t : Tour) (s0 : Stop) (acts : List Act) (acc : Load)
    (hc : ∀ a ∈ acts, ActCorr P t s0 a) :
    ∃ r, startGo P t s0 acc acts = .ok r ∧ ∀ d, lget r d = lget acc d + netOf P d acts := by
  induction acts generalizing acc with
  | nil => exact ⟨acc, rfl, by simp [netOf, sumInt]⟩
  | cons a rest ih =>
    obtain ⟨aty, k, dem, hat, hdem, hnb, hdelta, _⟩ := hc a (by simp)
    simp only [startGo, hat, hdem]
    refine (ih _ fun a ha => hc a (by simp [ha])).imp fun r ⟨hr, h1⟩ => ⟨hr, fun d => ?_⟩
    rw [h1 d, netOf_cons, hdelta d]
    cases k <;> first | exact absurd rfl hnb | simp only [deltaOf, lget_lsub, lget_ladd, Int.sub_eq_add_neg, Int.neg_zero, Int.add_zero, Int.zero_add,
        Int.add_assoc]

/-- `Spec.unloads` of a stop, on its activity list (the model inlines the count) -/
def unloadsOf (acts : List Act) : Int := ((countP (fun a => a.ty == .arrival || a.ty == .reload) acts : Nat) : Int)

theorem unloadsOf_cons (a : Act) (rest : List Act) :
    unloadsOf (a :: rest) = (if (a.ty == .arrival || a.ty == .reload) = true then 1 else 0) + unloadsOf rest := by
  simp only [unloadsOf, countP]
  split <;> omega

/-- the `change` fold of a leg's `to` stop: every arrival / reload activity takes the collected pickups `ep` off -/
theorem changeGo_ok (P : Problem) (t : Tour) (to : Stop) (ep : Load) (acts : List Act) (acc : Load)
    (hc : ∀ a ∈ acts, ActCorr P t to a) :
    ∃ r, changeGo P t to ep acc acts = .ok r ∧
      ∀ d, lget r d = lget acc d + netOf P d acts - unloadsOf acts * lget ep d := by
  induction acts generalizing acc with
  | nil => exact ⟨acc, rfl, by simp [netOf, sumInt, unloadsOf, countP]⟩
  | cons a rest ih =>
    obtain ⟨aty, k, dem, hat, hdem, hnb, hdelta, hterm⟩ := hc a (by simp)
    simp only [changeGo, hat]
    by_cases hu : (a.ty == ATy.arrival || a.ty == ATy.reload) = true
    · obtain rfl : k = .none := hterm (by simpa using hu)
      simp only [hu, if_true]
      refine (ih _ fun a ha => hc a (by simp [ha])).imp fun r ⟨hr, h1⟩ => ⟨hr, fun d => ?_⟩
      rw [h1 d, lget_lsub, netOf_cons, hdelta d, unloadsOf_cons, if_pos hu, Int.add_mul]
      simp only [deltaOf]
      omega
    · simp only [hu, Bool.false_eq_true, if_false, hdem]
      refine (ih _ fun a ha => hc a (by simp [ha])).imp fun r ⟨hr, h1⟩ => ⟨hr, fun d => ?_⟩
      rw [h1 d, netOf_cons, hdelta d, unloadsOf_cons, if_neg hu, Int.zero_add]
      cases k <;> first | exact absurd rfl hnb | simp only [deltaOf, lget_lsub, lget_ladd, Int.sub_eq_add_neg, Int.neg_zero, Int.add_zero, Int.zero_add,
        Int.add_assoc]

theorem netOf_stop (P : Problem) (d : Nat) (s : Stop) :
    netOf P d s.acts = - stopD P d s + stopP P d s + stopY P d s := by
  simp [netOf, stopD, stopP, stopY]

theorem unloadsOf_stop (s : Stop) : unloadsOf s.acts = unloads s := rfl

theorem expectedLoad_step (P : Problem) (dynB : Nat → Int) (pre post : List Stop) (x y : Stop) (d : Nat) :
    expectedLoad P dynB (pre ++ x :: y :: post) (pre.length + 1) d
      = expectedLoad P dynB (pre ++ x :: y :: post) pre.length d + netOf P d y.acts
        - unloads y * sumStops (stopP P d) (pre ++ x :: y :: post) := by
  have e : (pre ++ [x, y]).drop 1 = (pre ++ [x]).drop 1 ++ [y] := by cases pre <;> simp
  unfold expectedLoad
  simp only [Nat.add_assoc, List.drop_length_add_append, List.take_length_add_append, Nat.reduceAdd, List.drop_succ_cons,
    List.drop_zero, List.take_succ_cons, List.take_zero, e]
  simp only [sumStops_append, sumStops_cons, sumStops_nil, netOf_stop]
  generalize sumStops (stopP P d) pre + (stopP P d x + (stopP P d y + sumStops (stopP P d) post)) = SP
  rw [Int.mul_add, Int.mul_add, Int.mul_comm (unloads y) SP]
  lia

/-- the longest demand vector of the problem: the first component of `dims` and of `rdims` -/
abbrev demandDims (P : Problem) : Nat := maxNat (P.jobs.flatMap (fun j => j.tasks.map (fun tk => tk.demand.length)))

theorem demandDims_le_dims (P : Problem) (v : VType) : demandDims P ≤ dims P v := Nat.le_max_left _ _

theorem demandDims_le_rdims (P : Problem) (cap : Load) : demandDims P ≤ rdims P cap := Nat.le_max_left _ _

theorem length_le_rdims (P : Problem) (cap : Load) : cap.length ≤ rdims P cap :=
  Nat.le_trans (Nat.le_max_left _ _) (Nat.le_max_right _ _)

theorem capacity_length_le_dims (P : Problem) (v : VType) : v.capacity.length ≤ dims P v :=
  Nat.le_trans (Nat.le_max_left _ _) (Nat.le_max_right _ _)

theorem actDelta_zero_beyond (P : Problem) (a : Act) (d : Nat) (hd : demandDims P ≤ d) : actDelta P a d = (0, 0, 0) := by
  unfold actDelta
  cases htk : taskOf P a with
  | none => rfl
  | some jt =>
    obtain ⟨hf, hm⟩ := taskOf_eq_some P a jt.1 jt.2 htk
    have hlen : jt.2.demand.length ≤ d :=
      Nat.le_trans (le_maxNat _ _ (List.mem_flatMap.2 ⟨jt.1, (findJob_some P _ _ hf).1,
        List.mem_map.2 ⟨jt.2, matchTask_mem a _ _ hm, rfl⟩⟩)) hd
    have hx : jt.2.demand.getD d 0 = 0 := lget_of_length_le _ d hlen
    -- the demand is 0 in dimension `d`, so every component of the triple is 0
    simp only [hx]
    cases a.ty <;> simp <;> split <;> rfl

theorem stop_sums_zero_beyond (P : Problem) (d : Nat) (hd : demandDims P ≤ d) (s : Stop) :
    stopD P d s = 0 ∧ stopP P d s = 0 ∧ stopY P d s = 0 := by
  simp [stopD, stopP, stopY, actDelta_zero_beyond P _ d hd, sumInt_map_zero]

theorem expectedLoad_beyond (P : Problem) (dynB : Nat → Int) (iv : List Stop) (m d : Nat)
    (hd : demandDims P ≤ d) : expectedLoad P dynB iv m d = dynB d := by
  have hz := stop_sums_zero_beyond P d hd
  unfold expectedLoad
  rw [sumStops_zero _ _ fun s => (hz s).1, sumStops_zero _ _ fun s => (hz s).2.1,
      sumStops_zero _ _ fun s => (hz s).2.2, sumStops_zero (stopP P d) iv fun s => (hz s).2.1]
  simp

theorem stopLoadOk_unpack (P : Problem) (v : VType) (dynB : Nat → Int) (iv : List Stop) (m : Nat) (s : Stop)
    (hz : ∀ d, dims P v ≤ d → dynB d = 0) (h : stopLoadOk P v.capacity (dims P v) dynB iv m s = true) :
    s.load ≠ [] ∧ (∀ d, lget s.load d = expectedLoad P dynB iv m d) ∧ lfit v.capacity s.load = true := by
  simp only [stopLoadOk, Bool.and_eq_true, Bool.not_eq_true', decide_eq_true_eq, List.all_eq_true, List.mem_range,
    beq_iff_eq, List.isEmpty_eq_false_iff] at h
  obtain ⟨⟨hne, hlen⟩, hall⟩ := h
  -- beyond the dimensions in play the load, the capacity and the formula are all zero
  have hpad : ∀ d, dims P v ≤ d → lget s.load d = 0 := fun d hd => lget_of_length_le _ d (Nat.le_trans hlen hd)
  refine ⟨hne, fun d => ?_, (lfit_iff _ _).2 fun d => ?_⟩ <;> rcases Nat.lt_or_ge d (dims P v) with hd | hd
  · exact (hall d hd).1
  · rw [expectedLoad_beyond P dynB iv m d (Nat.le_trans (demandDims_le_dims P v) hd), hz d hd, hpad d hd]
  · exact (hall d hd).2
  · rw [hpad d hd, lget_of_length_le _ d (Nat.le_trans (capacity_length_le_dims P v) hd)]
    exact Int.le_refl 0

/-- `iv = pre ++ from_ :: rest`; from one stop to the next the positional formula moves by what the `change` fold computes
(`expectedLoad_step`) -/
theorem legsGo_ok (P : Problem) (t : Tour) (cap ep : Load) (dynB : Nat → Int) (iv : List Stop)
    (hep : ∀ d, lget ep d = sumStops (stopP P d) iv)
    (hpos : ∀ m s, iv[m]? = some s →
      s.load ≠ [] ∧ (∀ d, lget s.load d = expectedLoad P dynB iv m d) ∧ lfit cap s.load = true)
    (hc : ∀ s ∈ iv, ∀ a ∈ s.acts, ActCorr P t s a)
    (acc : Load) (pre : List Stop) (from_ : Stop) (rest : List Stop) (hiv : iv = pre ++ from_ :: rest)
    (hacc : ∀ d, lget from_.load d = lget acc d) :
    ∃ r, legsGo P t cap ep acc from_ rest = .ok r ∧
      ∀ d, lget r d = lget ((from_ :: rest).getLast (by simp)).load d := by
  induction rest generalizing acc pre from_ with
  | nil => exact ⟨acc, rfl, fun d => by simp [hacc d]⟩
  | cons to rest ih =>
    obtain ⟨hne1, hld1, hf1⟩ := hpos pre.length from_ (by simp [hiv])
    have hiv' : iv = (pre ++ [from_]) ++ to :: rest := by simp [hiv]
    obtain ⟨hne2, hld2, hf2⟩ := hpos (pre.length + 1) to (by simp [hiv])
    obtain ⟨ch, hch, hchd⟩ := changeGo_ok P t to ep to.acts [] (hc to (by simp [hiv]))
    have hl1 : leq from_.load acc = true := (leq_iff _ _).2 ⟨fun h => hne1 h.1, hacc⟩
    have hl2 : leq to.load (ladd from_.load ch) = true := by
      refine (leq_iff _ _).2 ⟨fun h => hne2 h.1, fun d => ?_⟩
      rw [lget_ladd, hchd d, hld2 d, hld1 d, hiv, expectedLoad_step, ← hiv, hep d, unloadsOf_stop, lget_nil]
      omega
    obtain ⟨r, hr, hrd⟩ := ih to.load (pre ++ [from_]) to hiv' (fun _ => rfl)
    refine ⟨r, ?_, fun d => by simp [hrd d, List.getLast_cons]⟩
    simp only [legsGo, hf1, hf2, Bool.not_true, Bool.or_self, Bool.false_eq_true, if_false, hch, hl1, hl2,
      Bool.and_self, if_true]
    exact hr

theorem mem_stopActs (iv : List Stop) (p : Stop × Act) (h : p ∈ stopActs iv) : p.1 ∈ iv ∧ p.2 ∈ p.1.acts := by
  obtain ⟨s, hs, hp⟩ := List.mem_flatMap.1 h
  obtain ⟨a, ha, rfl⟩ := List.mem_map.1 hp
  exact ⟨hs, ha⟩

theorem intervalLoadsOk_at (P : Problem) (cap : Load) (nd : Nat) (dynB : Nat → Int) (iv : List Stop)
    (h : intervalLoadsOk P cap nd dynB iv = true) (m : Nat) (s : Stop) (hm : iv[m]? = some s) :
    stopLoadOk P cap nd dynB iv m s = true := by
  obtain ⟨hlt, _⟩ := List.getElem?_eq_some_iff.1 hm
  simpa [hm] using List.all_eq_true.1 h m (List.mem_range.2 hlt)

theorem interval_ok (P : Problem) (t : Tour) (v : VType) (dynB : Nat → Int) (acc : Load) (s0 : Stop) (tl : List Stop)
    (hc : ∀ s ∈ s0 :: tl, ∀ a ∈ s.acts, ActCorr P t s a)
    (hacc : ∀ d, lget acc d = dynB d) (hz : ∀ d, dims P v ≤ d → dynB d = 0)
    (hspec : intervalLoadsOk P v.capacity (dims P v) dynB (s0 :: tl) = true) :
    ∃ sd ep sl endCap, sumsGo P t (acc, []) (stopActs (s0 :: tl)) = .ok (sd, ep) ∧
      startGo P t s0 sd s0.acts = .ok sl ∧ legsGo P t v.capacity ep sl s0 tl = .ok endCap ∧
      ∀ d, lget (lsub endCap ep) d = carryAfter P dynB (s0 :: tl) d := by
  have hat : ∀ m s, (s0 :: tl)[m]? = some s →
      s.load ≠ [] ∧ (∀ d, lget s.load d = expectedLoad P dynB (s0 :: tl) m d) ∧ lfit v.capacity s.load = true :=
    fun m s hm => stopLoadOk_unpack P v dynB (s0 :: tl) m s hz (intervalLoadsOk_at P _ _ dynB _ hspec m s hm)
  obtain ⟨r, hr, h1, h2⟩ := sumsGo_ok P t (stopActs (s0 :: tl)) (acc, [])
    (fun p hp => hc p.1 (mem_stopActs _ p hp).1 p.2 (mem_stopActs _ p hp).2)
  obtain ⟨sd, ep⟩ := r
  simp only at h1 h2
  have hsd d : lget sd d = dynB d + sumStops (stopD P d) (s0 :: tl) := by
    rw [h1 d, hacc d, sum_stopActs (fun a => (actDelta P a d).1)]
    rfl
  have hep d : lget ep d = sumStops (stopP P d) (s0 :: tl) := by
    rw [h2 d, lget_nil, Int.zero_add, sum_stopActs (fun a => (actDelta P a d).2.1)]
    rfl
  obtain ⟨sl, hsl, hsld⟩ := startGo_ok P t s0 s0.acts sd (hc s0 (by simp))
  have hacc0 d : lget s0.load d = lget sl d := by
    rw [(hat 0 s0 (by simp)).2.1 d, hsld d, hsd d, netOf_stop]
    unfold expectedLoad
    simp only [Nat.zero_add, List.drop_succ_cons, List.drop_zero, List.take_succ_cons, List.take_zero, List.drop_nil,
      sumStops_cons, sumStops_nil]
    omega
  obtain ⟨endCap, hlegs, hend⟩ := legsGo_ok P t v.capacity ep dynB (s0 :: tl) hep hat hc sl [] s0 tl rfl hacc0
  refine ⟨sd, ep, sl, endCap, hr, hsl, hlegs, ?_⟩
  intro d
  rw [lget_lsub, hend d, hep d]
  unfold carryAfter
  have hlast : (s0 :: tl)[(s0 :: tl).length - 1]? = some ((s0 :: tl).getLast (by simp)) := by
    rw [List.getLast_eq_getElem]
    simp
  rw [(hat _ _ hlast).2.1 d]

theorem carryAfter_beyond (P : Problem) (dynB : Nat → Int) (iv : List Stop) (d : Nat)
    (hd : demandDims P ≤ d) (hz : dynB d = 0) : carryAfter P dynB iv d = 0 := by
  unfold carryAfter
  rw [expectedLoad_beyond P dynB iv _ d hd, hz, sumStops_zero (stopP P d) iv fun s => (stop_sums_zero_beyond P d hd s).2.1]
  rfl

theorem intervalsGo_ok (P : Problem) (t : Tour) (v : VType) (ivs : List (List Stop)) (dynB : Nat → Int) (acc : Load)
    (hne : ∀ iv ∈ ivs, iv ≠ [])
    (hc : ∀ iv ∈ ivs, ∀ s ∈ iv, ∀ a ∈ s.acts, ActCorr P t s a)
    (hacc : ∀ d, lget acc d = dynB d) (hz : ∀ d, dims P v ≤ d → dynB d = 0)
    (hspec : intervalsLoadsOk P v.capacity (dims P v) dynB ivs = true) :
    intervalsGo P t v.capacity acc ivs = .ok () := by
  induction ivs generalizing dynB acc with
  | nil => rfl
  | cons iv rest ih =>
    simp only [intervalsLoadsOk, Bool.and_eq_true] at hspec
    cases hiv : iv with
    | nil => exact absurd hiv (hne iv (by simp))
    | cons s0 tl =>
      rw [hiv] at hspec
      obtain ⟨sd, ep, sl, endCap, hs, hst, hl, hcarry⟩ :=
        interval_ok P t v dynB acc s0 tl (by rw [← hiv]; exact hc iv (by simp)) hacc hz hspec.1
      simp only [intervalsGo, hs, hst, hl]
      exact ih (carryAfter P dynB (s0 :: tl)) (lsub endCap ep)
        (fun iv' h' => hne iv' (by simp [h'])) (fun iv' h' => hc iv' (by simp [h']))
        hcarry (fun d hd => carryAfter_beyond P dynB _ d (Nat.le_trans (demandDims_le_dims P v) hd) (hz d hd)) hspec.2

/-! ## shared reload resources (`check_resource_consumption`) -/

theorem dkind_sDelivery (b : Bool) (ty : ATy) (h : dkind b ty = .sDelivery) : ty = .delivery := by
  cases ty <;> cases b <;> simp [dkind] at h ⊢

theorem staticDeliveryOf_nondelivery (P : Problem) (t : Tour) (s : Stop) (a : Act) (h : a.ty ≠ .delivery) :
    staticDeliveryOf P t (s, a) = [] := by
  unfold staticDeliveryOf
  cases hat : activityType P t s a with
  | error c => rfl
  | ok aty =>
    simp only
    cases hd : demandOf a aty with
    | error c => rfl
    | ok kd =>
      obtain ⟨k, dem⟩ := kd
      have hk : k ≠ .sDelivery := by
        intro hk
        subst hk
        cases aty with
        | job j =>
          simp only [demandOf] at hd
          cases hm : matchTask a j with
          | error c => simp [hm] at hd
          | ok tk =>
            simp only [hm, Except.ok.injEq, Prod.mk.injEq] at hd
            exact h (dkind_sDelivery _ _ hd.1)
        | _ => simp only [demandOf, Except.ok.injEq, Prod.mk.injEq] at hd; exact h (dkind_sDelivery _ _ hd.1)
      cases k <;> first | rfl | exact absurd rfl hk

theorem actDelta_fst_nondelivery (P : Problem) (a : Act) (d : Nat) (h : a.ty ≠ .delivery) : (actDelta P a d).1 = 0 := by
  unfold actDelta
  cases taskOf P a with
  | none => rfl
  | some jt =>
    obtain ⟨j, tk⟩ := jt
    -- only the delivery arm of `actDelta` has a first component
    cases hty : a.ty <;> simp_all <;> split <;> rfl

theorem staticDeliveryOf_eq (P : Problem) (t : Tour) (sh : Shift) (hsh : vehicleShift P t = .ok sh) (s : Stop) (a : Act)
    (d : Nat) : lget (staticDeliveryOf P t (s, a)) d = (actDelta P a d).1 := by
  by_cases hty : a.ty = .delivery
  · unfold staticDeliveryOf
    simp only [activityType, hsh, hty]
    cases hf : findJob P a.jobId with
    | none => simp [actDelta, taskOf, hf, lget]
    | some j =>
      simp only [demandOf]
      cases hm : matchTask a j with
      | error c => simp [actDelta, taskOf, hf, hm, lget]
      | ok tk =>
        simp only [dkind, hty, actDelta, taskOf, hf, hm]
        cases isDynamic j <;> simp [lget]
  · rw [staticDeliveryOf_nondelivery P t s a hty, actDelta_fst_nondelivery P a d hty]; rfl

theorem foldl_ladd_lget {α} (f : α → Load) (L : List α) (acc : Load) (d : Nat) :
    lget (L.foldl (fun acc p => ladd acc (f p)) acc) d = lget acc d + sumInt (L.map (fun p => lget (f p) d)) := by
  induction L generalizing acc with
  | nil => simp [sumInt]
  | cons x rest ih => simp only [List.foldl_cons, ih, lget_ladd, List.map_cons, sumInt]; omega

theorem consumptionOf_eq (P : Problem) (t : Tour) (sh : Shift) (hsh : vehicleShift P t = .ok sh) (iv : List Stop) (d : Nat) :
    lget (consumptionOf P t iv) d = sumStops (stopD P d) iv := by
  unfold consumptionOf
  rw [foldl_ladd_lget, lget_nil, Int.zero_add]
  have : (stopActs iv).map (fun p => lget (staticDeliveryOf P t p) d)
       = (stopActs iv).map (fun p => (fun a => (actDelta P a d).1) p.2) := by
    apply List.map_congr_left
    intro p _
    exact staticDeliveryOf_eq P t sh hsh p.1 p.2 d
  rw [this]
  exact sum_stopActs (fun a => (actDelta P a d).1) iv

/-- the closure that `resourceIdOf` maps over the activities of a stop (anonymous in the model) -/
def ridF (P : Problem) (t : Tour) (s0 : Stop) (a : Act) : Option String :=
  match activityType P t s0 a with
  | .ok (.reload r) => r.resource
  | _ => none

theorem ridF_nonreload (P : Problem) (t : Tour) (s0 : Stop) (a : Act) (h : a.ty ≠ .reload) : ridF P t s0 a = none := by
  unfold ridF
  split
  · rename_i r hat; exact absurd (activityType_ty P t s0 a _ hat : a.ty = .reload) h
  · rfl

theorem ridF_reload (P : Problem) (t : Tour) (sh : Shift) (hsh : vehicleShift P t = .ok sh) (s0 : Stop) (a : Act)
    (h : a.ty = .reload) :
    ridF P t s0 a = (sh.reloads.find? (fun r => r.loc == actLoc s0 a && r.tag == a.tag)).bind (fun r => r.resource) := by
  unfold ridF
  simp only [activityType, hsh, h]
  cases sh.reloads.find? (fun r => r.loc == actLoc s0 a && r.tag == a.tag) with
  | none => rfl
  | some r => rfl

/-- the resource an interval draws on: the code scans the activities of the first stop, the specification looks at the
reload that opens it; they agree when a reload is only ever the first activity of its stop -/
theorem resourceIdOf_eq (P : Problem) (t : Tour) (sh : Shift) (hsh : vehicleShift P t = .ok sh) (hso : shiftOf P t = some sh)
    (s0 : Stop) (tl : List Stop) (hfirst : ∀ a ∈ s0.acts.drop 1, a.ty ≠ .reload) :
    resourceIdOf P t s0 = drawsOn P t (s0 :: tl) := by
  have h1 : resourceIdOf P t s0 = s0.acts.findSome? (ridF P t s0) := rfl
  have h2 : drawsOn P t (s0 :: tl) = (match s0.acts.head? with
      | none => none
      | some a => (reloadPlaceOf P t s0 a).bind (fun r => r.resource)) := rfl
  rw [h1, h2]
  cases hacts : s0.acts with
  | nil => rfl
  | cons a rest =>
    have hrest : rest.findSome? (ridF P t s0) = none := by
      rw [List.findSome?_eq_none_iff]
      intro b hb
      exact ridF_nonreload P t s0 b (hfirst b (by simp [hacts, hb]))
    simp only [List.findSome?_cons, List.head?_cons, hrest]
    by_cases hty : a.ty = .reload
    · rw [ridF_reload P t sh hsh s0 a hty]
      simp only [reloadPlaceOf, hty, hso, beq_self_eq_true, if_true, Option.bind_some]
      cases (sh.reloads.find? (fun r => r.loc == actLoc s0 a && r.tag == a.tag)).bind (fun r => r.resource) <;> rfl
    · rw [ridF_nonreload P t s0 a hty]
      simp [reloadPlaceOf, hty]

theorem tourShape_reload_first (P : Problem) (t : Tour) (h : tourShapeOk P t = true) :
    ∀ s ∈ t.stops, ∀ a ∈ s.acts.drop 1, a.ty ≠ .reload := by
  unfold tourShapeOk at h
  cases hst : t.stops with
  | nil => simp [hst] at h
  | cons s0 rest =>
    simp only [hst, Bool.and_eq_true, List.all_eq_true, bne_iff_ne, ne_eq] at h
    obtain ⟨⟨⟨⟨⟨⟨_, _⟩, hC⟩, hD⟩, _⟩, _⟩, _⟩ := h
    intro s hs a ha
    simp only [List.mem_cons] at hs
    rcases hs with rfl | hs
    · exact hC a (List.mem_of_mem_drop ha)
    · exact hD s hs a ha

theorem sum_draws {α} (L : List α) (g : α → Option String) (c : α → Load) (id : String) (d : Nat) :
    sumInt (((L.filterMap (fun x => (g x).map (fun i => (i, c x)))).filter (fun p => p.1 == id)).map (fun p => lget p.2 d))
      = sumInt ((L.filter (fun x => g x == some id)).map (fun x => lget (c x) d)) := by
  induction L with
  | nil => rfl
  | cons x rest ih =>
    rw [List.filterMap_cons]
    cases hg : g x with
    | none => simpa [hg] using ih
    | some i => by_cases h : i = id <;> simp [hg, h, sumInt, ih]

theorem filterMap_congr {α β} {f g : α → Option β} {l : List α} (h : ∀ x ∈ l, f x = g x) : l.filterMap f = l.filterMap g := by
  induction l with
  | nil => rfl
  | cons x l ih =>
    rw [List.filterMap_cons, List.filterMap_cons, h x (List.mem_cons_self ..), ih fun y hy => h y (List.mem_cons_of_mem _ hy)]

/-- on a well-shaped tour the code's (resource id, consumption) pairs are indexed by the specification's `drawsOn` -/
theorem tourDraws_eq (P : Problem) (t : Tour) (hshape : tourShapeOk P t = true) (hag : shiftAgrees P t = true)
    (ivs : List (List Stop)) (hi : intervals t.stops = some ivs) :
    tourDraws P t = ivs.filterMap (fun iv => (drawsOn P t iv).map (fun i => (i, consumptionOf P t iv))) := by
  obtain ⟨sh, hso, hsh⟩ := shiftOf_of_agrees P t hag
  unfold tourDraws
  rw [hi]
  refine filterMap_congr fun iv hiv => ?_
  cases iv with
  | nil => rfl
  | cons s0 tl =>
    exact congrArg (Option.map _) (resourceIdOf_eq P t sh hsh hso s0 tl
      (tourShape_reload_first P t hshape s0 (intervals_mem t.stops ivs hi _ hiv s0 (by simp))))

theorem tourDraws_sum (P : Problem) (t : Tour) (hshape : tourShapeOk P t = true) (hag : shiftAgrees P t = true)
    (id : String) (d : Nat) :
    sumInt (((tourDraws P t).filter (fun p => p.1 == id)).map (fun p => lget p.2 d)) = tourDrawn P t id d := by
  obtain ⟨sh, _, hsh⟩ := shiftOf_of_agrees P t hag
  unfold tourDrawn
  cases hi : intervals t.stops with
  | none => simp only [tourDraws, hi]; rfl
  | some ivs =>
    rw [tourDraws_eq P t hshape hag ivs hi, sum_draws ivs (drawsOn P t) (consumptionOf P t) id d]
    simp only [consumptionOf_eq P t sh hsh]

end C12
