import VrpModel.C01Reach

/-!
# An accepted insertion adds no unreachable leg (C01, reachability)
-/

namespace VrpProofs.C01Reach
open VrpModel.C01Reach

theorem legsOk_cons_cons (d : Nat → Nat → Int) (a b : Nat) (rest : List Nat) :
    legsOk d (a :: b :: rest) = (decide (0 ≤ d a b) && legsOk d (b :: rest)) := rfl

theorem legsOk_split (d : Nat → Nat → Int) (pre : List Nat) (x : Nat) (post : List Nat) :
    legsOk d (pre ++ x :: post) = (legsOk d (pre ++ [x]) && legsOk d (x :: post)) := by
  induction pre with
  | nil => exact (Bool.true_and _).symm
  | cons a pre ih =>
    cases pre with
    | nil => simp only [List.cons_append, List.nil_append, legsOk, Bool.and_true]
    | cons b pre =>
      simp only [List.cons_append, legsOk_cons_cons] at ih ⊢
      rw [ih, Bool.and_assoc]

theorem insert_keeps_legsOk (d : Nat → Nat → Int) (pre : List Nat) (prev target : Nat) (post : List Nat)
    (h : legsOk d (pre ++ prev :: post) = true) (ha : accept d prev target post.head? = true) :
    legsOk d (pre ++ prev :: target :: post) = true := by
  rw [legsOk_split, Bool.and_eq_true] at h ⊢
  refine ⟨h.1, ?_⟩
  cases post with
  | nil => exact ha
  | cons n post =>
    simp only [accept, List.head?_cons, legsOk_cons_cons, Bool.and_eq_true] at ha h ⊢
    exact ⟨ha.1, ha.2, h.2.2⟩

/-- any number of accepted insertions, starting from a tour without unreachable legs -/
inductive Reach (d : Nat → Nat → Int) : List Nat → Prop
  | base (t : List Nat) : legsOk d t = true → Reach d t
  | insert (pre : List Nat) (prev target : Nat) (post : List Nat) :
      Reach d (pre ++ prev :: post) → accept d prev target post.head? = true → Reach d (pre ++ prev :: target :: post)

theorem reach_legsOk (d : Nat → Nat → Int) (t : List Nat) (h : Reach d t) : legsOk d t = true := by
  induction h with
  | base t h => exact h
  | insert pre prev target post _ ha ih => exact insert_keeps_legsOk d pre prev target post ih ha

/-- the one-way data of the demonstration of C01-r6: nothing is reachable FROM place 1, place 1 is reachable from everywhere -/
def deadEnd : Nat → Nat → Int := fun a b => if a = 1 ∧ b ≠ 1 then -1 else 10

/-- **the constraint asked in the wrong direction lets an unreachable leg through** (closed tour 2 → 0 → 2, dead end 1 inserted after 0) -/
theorem swapped_lets_unreachable_through :
    legsOk deadEnd [2, 0, 2] = true ∧ acceptSwapped deadEnd 0 1 (some 2) = true ∧ legsOk deadEnd [2, 0, 1, 2] = false := by
  decide

example : accept deadEnd 0 1 (some 2) = false := by decide
example : accept deadEnd 0 1 none = true ∧ legsOk deadEnd [2, 0, 1] = true := by decide

end VrpProofs.C01Reach
