import VrpModel.C20
import VrpProofs.C06
/-!
# C20 — the quoted insertion cost equals the realised objective change (additive objectives)

MODEL of the quote: `C06.costVector` (layers unassigned / tours / distance-or-cost, i.e.
`FeatureObjective::estimate` of `minimize_unassigned.rs`, `fleet_usage.rs`, `transport.rs::estimate_leg`).
SPEC of the objective values: `C20.fitnessOf`, recomputed from the bare tour.
With waiting the cost quote is an estimate by design; that case is decided by the oracle on the real numbers.
-/

namespace C20
open Route C06

def lastLoc : List Act → Nat → Nat
  | [], l => l
  | a :: r, _ => lastLoc r a.loc

theorem after_fst (t : Nat → Nat → Int) (xs : List Act) (l : Nat) (dep : Int) :
    (after t xs l dep).1 = lastLoc xs l := by
  induction xs generalizing l dep with
  | nil => rfl
  | cons a r ih => rw [after, ih, lastLoc]

theorem totalDist_append (d : Nat → Nat → Int) (xs ys : List Act) (l : Nat) :
    totalDist d (xs ++ ys) l = totalDist d xs l + totalDist d ys (lastLoc xs l) := by
  induction xs generalizing l with
  | nil => rw [List.nil_append, totalDist, lastLoc, Int.zero_add]
  | cons a r ih => rw [List.cons_append, totalDist, totalDist, ih, lastLoc, Int.add_assoc]

theorem acts_isEmpty (c : Ctx) : c.acts.isEmpty = c.tour.isEmpty := by rw [Ctx.acts, List.isEmpty_map]
theorem acts_eq_nil (c : Ctx) (he : c.tour = []) : c.acts = [] := by rw [Ctx.acts, he]; rfl

theorem insertAt_isEmpty {α : Type} (l : List α) (i : Nat) (x : α) : (insertAt l i x).isEmpty = false := by
  rw [insertAt]
  cases l.take i <;> rfl

/-- the leg estimate is exact for any additive metric (distance, driving time): for a tour that already has jobs, the
    quoted change for inserting `x` at leg `i` (middle, before the arrival activity, or at an open end) is the change of
    the total recomputed from the bare tour -/
theorem leg_estimate_exact (m : Nat → Nat → Int) (c : Ctx) (i : Nat) (x : Act) (hi : i ≤ c.acts.length)
    (hne : c.tour.isEmpty = false) :
    estimateLeg c m i x =
      totalDist m (c.veh.full (insertAt c.acts i x)) c.veh.startLoc
        - totalDist m (c.veh.full c.acts) c.veh.startLoc := by
  unfold estimateLeg
  dsimp only
  rw [C06.full_insertAt c.veh c.acts i x hi]
  conv => rhs; rhs; rw [C06.full_split c.veh c.acts i hi]
  rw [totalDist_append, totalDist_append, after_fst, hne]
  generalize (c.veh.full c.acts).drop i = rest
  generalize totalDist m (c.acts.take i) c.veh.startLoc = D
  cases rest with
  | nil => simp only [totalDist]; lia
  | cons nx r => simp only [totalDist, Bool.false_eq_true, if_false]; lia

theorem distance_estimate_exact (c : Ctx) (i : Nat) (x : Act) (hi : i ≤ c.acts.length)
    (hne : c.tour.isEmpty = false) :
    estimateLeg c c.m.d i x =
      totalDist c.m.d (c.veh.full (insertAt c.acts i x)) c.veh.startLoc
        - totalDist c.m.d (c.veh.full c.acts) c.veh.startLoc := leg_estimate_exact c.m.d c i x hi hne

theorem leg_estimate_first (m : Nat → Nat → Int) (c : Ctx) (x : Act) (he : c.tour = []) :
    estimateLeg c m 0 x = totalDist m (c.veh.full [x]) c.veh.startLoc := by
  unfold estimateLeg Veh.full Veh.endActs
  dsimp only
  rw [acts_eq_nil c he, he]
  cases c.veh.endAt <;> simp [after, totalDist]

theorem distance_estimate_first (c : Ctx) (x : Act) (he : c.tour = []) :
    estimateLeg c c.m.d 0 x = totalDist c.m.d (c.veh.full [x]) c.veh.startLoc := leg_estimate_first c.m.d c x he

/-- **C20 for the model, distance goal**: every component of the quoted cost vector equals the
    change of the corresponding objective value recomputed from the tours (job counted as unassigned
    before, assigned after) — unassigned jobs, number of tours, total distance -/
theorem quote_exact_distance (c : Ctx) (i : Nat) (x : Act) (hi : i ≤ c.acts.length)
    (hobj : c.obj = .distance) :
    costVector c i x =
      List.zipWith (· - ·) (fitnessOf c (insertAt c.acts i x) 0) (fitnessOf c c.acts 1) := by
  have hins := insertAt_isEmpty c.acts i x
  have hemp := acts_isEmpty c
  unfold costVector fitnessOf transportFitness
  simp only [hobj, hins, List.zipWith_cons_cons, List.zipWith_nil_right]
  cases hte : c.tour.isEmpty with
  | true =>
    have he : c.tour = [] := List.isEmpty_iff.mp hte
    have hacts := acts_eq_nil c he
    have hi0 : i = 0 := by simpa [hacts] using hi
    subst hi0
    rw [distance_estimate_first c x he]
    simp [hacts, insertAt]
  | false =>
    rw [distance_estimate_exact c i x hi hte]
    simp [hemp, hte]

/-! ## the cost objective: exact when nobody waits

`CostObjective::estimate_activity` prices waiting and its possible reduction heuristically, so with waiting the quote is
an estimate. Without waiting - in the tour as it is and in the tour with the job inserted - it is exact: distance and
duration both change by the detour, the duration also by the service time. -/

def noWait (t : Nat → Nat → Int) : List Act → Nat → Int → Bool
  | [], _, _ => true
  | a :: rest, l, dep => decide (a.s ≤ dep + t l a.loc) && noWait t rest a.loc (depOf a (dep + t l a.loc))

def durSum (xs : List Act) : Int := (xs.map (·.dur)).sum

theorem noWait_cons_iff (t : Nat → Nat → Int) (a : Act) (r : List Act) (l : Nat) (dep : Int) :
    noWait t (a :: r) l dep = true ↔ a.s ≤ dep + t l a.loc ∧ noWait t r a.loc (depOf a (dep + t l a.loc)) = true := by
  rw [noWait, Bool.and_eq_true, decide_eq_true_eq]

theorem noWait_append (t : Nat → Nat → Int) (xs ys : List Act) (l : Nat) (dep : Int) :
    noWait t (xs ++ ys) l dep = (noWait t xs l dep && noWait t ys (after t xs l dep).1 (after t xs l dep).2) := by
  induction xs generalizing l dep with
  | nil => rw [List.nil_append, noWait, after, Bool.true_and]
  | cons a r ih => rw [List.cons_append, noWait, noWait, after, ih, Bool.and_assoc]

theorem durSum_cons (a : Act) (xs : List Act) : durSum (a :: xs) = a.dur + durSum xs := by
  rw [durSum, List.map_cons, List.sum_cons, durSum]

theorem durSum_append (xs ys : List Act) : durSum (xs ++ ys) = durSum xs + durSum ys := by
  rw [durSum, List.map_append, List.sum_append, durSum, durSum]

theorem max_sub_zero {a b : Int} (h : a ≤ b) : max (a - b) 0 = 0 := Int.max_eq_right (Int.sub_nonpos_of_le h)

theorem after_noWait (t : Nat → Nat → Int) (xs : List Act) (l : Nat) (dep : Int) (h : noWait t xs l dep = true) :
    (after t xs l dep).2 = dep + totalDist t xs l + durSum xs := by
  induction xs generalizing l dep with
  | nil => rw [after, totalDist, durSum, List.map_nil, List.sum_nil, Int.add_zero, Int.add_zero]
  | cons a r ih =>
    rw [noWait_cons_iff] at h
    rw [after, ih _ _ h.2, depOf, Int.max_eq_left h.1, totalDist, durSum_cons]
    lia

theorem futureWaiting_noWait (t : Nat → Nat → Int) (xs : List Act) (l : Nat) (dep : Int) (h : noWait t xs l dep = true) :
    ∀ w ∈ futureWaiting xs (sched t xs l dep), w = 0 := by
  induction xs generalizing l dep with
  | nil => intro w hw; cases hw
  | cons a r ih =>
    rw [noWait_cons_iff] at h
    have iht := ih _ _ h.2
    intro w hw
    rw [sched, futureWaiting] at hw
    rcases List.mem_cons.mp hw with rfl | hw
    · have h0 : (futureWaiting r (sched t r a.loc (depOf a (dep + t l a.loc)))).headD 0 = 0 := by
        cases hf : futureWaiting r (sched t r a.loc (depOf a (dep + t l a.loc))) with
        | nil => rfl
        | cons z zs => exact iht z (hf ▸ List.mem_cons_self)
      rw [h0, max_sub_zero h.1]
      rfl
    · exact iht w hw

theorem endActs_dur (v : Veh) : ∀ e ∈ v.endActs, e.dur = 0 := by
  unfold Veh.endActs
  split
  · intro e he; rw [List.mem_singleton.mp he]
  · nofun

theorem durSum_endActs (v : Veh) : durSum v.endActs = 0 := by
  unfold Veh.endActs
  split <;> rfl

/-- with nobody waiting the quoted activity-level cost is the detour priced per distance plus the detour and the service
    priced per time - also for the first job of an unused tour, where the whole new tour is the detour and the arrival
    activity has no service time -/
theorem cost_estimate (c : Ctx) (i : Nat) (x : Act) (hi : i ≤ c.acts.length)
    (hold : c.tour.isEmpty = false → noWait c.m.t (c.veh.full c.acts) c.veh.startLoc c.veh.dep = true)
    (hnew : noWait c.m.t (c.veh.full (insertAt c.acts i x)) c.veh.startLoc c.veh.dep = true) :
    estimateCostActivity c i x =
      estimateLeg c c.m.d i x * c.costs.perDist + (estimateLeg c c.m.t i x + x.dur) * c.costs.perTime := by
  rw [C06.full_insertAt c.veh c.acts i x hi, noWait_append, Bool.and_eq_true, noWait_cons_iff] at hnew
  unfold estimateCostActivity estimateLeg
  dsimp only
  cases hrest : (c.veh.full c.acts).drop i with
  | nil =>
    dsimp only
    rw [max_sub_zero hnew.2.1, Int.zero_add]
    exact (Int.add_assoc ..).trans (congrArg _ (Int.add_mul ..).symm)
  | cons nx r =>
    rw [hrest] at hnew
    dsimp only
    rw [max_sub_zero hnew.2.1, Int.zero_add, max_sub_zero ((noWait_cons_iff ..).mp hnew.2.2).1, Int.zero_add]
    cases hte : c.tour.isEmpty with
    | true =>
      -- the next activity is the arrival activity
      have hnx : nx ∈ c.veh.full c.acts := List.mem_of_mem_drop (hrest ▸ List.mem_cons_self)
      rw [Veh.full, acts_eq_nil c (List.isEmpty_iff.mp hte), List.nil_append] at hnx
      rw [if_pos rfl, if_pos rfl, if_pos rfl, endActs_dur c.veh nx hnx]
      simp only [Int.zero_mul, Int.add_mul, Int.add_zero]
      lia
    | false =>
      have hold := hold hte
      -- the waiting the estimator may give back is zero: nobody waits in the tour as it is
      have hw0 : (if i < c.tour.length then (futureWaiting (c.veh.full c.acts)
          (sched c.m.t (c.veh.full c.acts) c.veh.startLoc c.veh.dep)).getD i 0 else 0) = 0 := by
        split
        · exact (C06.getD_eq_or_mem _ i 0).elim id (futureWaiting_noWait _ _ _ _ hold _)
        · rfl
      rw [C06.full_split c.veh c.acts i hi, noWait_append, Bool.and_eq_true, hrest] at hold
      rw [if_neg Bool.false_ne_true, if_neg Bool.false_ne_true, if_neg Bool.false_ne_true, hw0,
        max_sub_zero ((noWait_cons_iff ..).mp hold.2).1, Int.min_eq_left (Int.le_max_left 0 _)]
      simp only [Int.zero_add, Int.zero_mul, Int.add_mul, Int.sub_mul]
      lia

-- `hne` is not needed: `cost_estimate` covers the unused tour as well
set_option linter.unusedVariables false in
theorem cost_estimate_noWait (c : Ctx) (i : Nat) (x : Act) (hi : i ≤ c.acts.length)
    (hne : c.tour.isEmpty = false)
    (hold : noWait c.m.t (c.veh.full c.acts) c.veh.startLoc c.veh.dep = true)
    (hnew : noWait c.m.t (c.veh.full (insertAt c.acts i x)) c.veh.startLoc c.veh.dep = true) :
    estimateCostActivity c i x =
      estimateLeg c c.m.d i x * c.costs.perDist + (estimateLeg c c.m.t i x + x.dur) * c.costs.perTime :=
  cost_estimate c i x hi (fun _ => hold) hnew

theorem durSum_full_insertAt (v : Veh) (jobs : List Act) (i : Nat) (x : Act) (hi : i ≤ jobs.length) :
    durSum (v.full (insertAt jobs i x)) = durSum (v.full jobs) + x.dur := by
  rw [C06.full_insertAt v jobs i x hi]
  conv => rhs; lhs; rw [C06.full_split v jobs i hi]
  rw [durSum_append, durSum_append, durSum_cons]
  lia

/-- **C20 for the model, cost goal, no waiting**: for a tour that already has jobs, if nobody waits in the tour as it
    is and in the tour with the job inserted, every component of the quoted cost vector equals the change of the
    corresponding objective value recomputed from the bare tours - unassigned jobs, number of tours, total cost
    (fixed + distance x per-distance + duration x per-time). -/
theorem quote_exact_cost_noWait (c : Ctx) (i : Nat) (x : Act) (hi : i ≤ c.acts.length)
    (hobj : c.obj = .cost) (hne : c.tour.isEmpty = false)
    (hold : noWait c.m.t (c.veh.full c.acts) c.veh.startLoc c.veh.dep = true)
    (hnew : noWait c.m.t (c.veh.full (insertAt c.acts i x)) c.veh.startLoc c.veh.dep = true) :
    costVector c i x =
      List.zipWith (· - ·) (fitnessOf c (insertAt c.acts i x) 0) (fitnessOf c c.acts 1) := by
  have hins := insertAt_isEmpty c.acts i x
  have hemp := (acts_isEmpty c).trans hne
  unfold costVector fitnessOf transportFitness totalDuration
  simp only [hobj, hins, hemp, hne, List.zipWith_cons_cons, List.zipWith_nil_right, Bool.false_eq_true, if_false]
  rw [cost_estimate_noWait c i x hi hne hold hnew,
      leg_estimate_exact c.m.d c i x hi hne, leg_estimate_exact c.m.t c i x hi hne,
      after_noWait _ _ _ _ hold, after_noWait _ _ _ _ hnew, durSum_full_insertAt c.veh c.acts i x hi]
  congr 3
  simp only [Int.add_mul, Int.sub_mul]
  lia

def exM : Mat := { n := 3, dur := [0, 5, 7, 5, 0, 3, 7, 3, 0], dist := [0, 5, 7, 5, 0, 3, 7, 3, 0] }
def exC : Ctx := { m := exM, veh := { startLoc := 0, earliest := 0, dep := 0, endAt := some (0, 100) }, cap := [5],
                   costs := ⟨10, 1, 1⟩, obj := .distance,
                   tour := [{ act := { loc := 1, s := 0, e := 50, dur := 1 }, dem := none }] }
-- inserting location 2 after the job: 0→1→2→0 = 15 against 0→1→0 = 10, quote +5, one job less unassigned
example : costVector exC 1 { loc := 2, s := 0, e := 50, dur := 0 } = [-1, 0, 5] := by decide +kernel
-- the cost goal: nobody waits before and after the insertion (hypotheses of `quote_exact_cost_noWait` hold), the quote
-- is detour 5 x 1 per distance + (detour 5 + service 2) x 1 per time = 12
def exK : Ctx := { exC with obj := .cost }
example : noWait exK.m.t (exK.veh.full exK.acts) exK.veh.startLoc exK.veh.dep = true ∧
    noWait exK.m.t (exK.veh.full (insertAt exK.acts 1 { loc := 2, s := 0, e := 50, dur := 2 })) exK.veh.startLoc exK.veh.dep = true ∧
    costVector exK 1 { loc := 2, s := 0, e := 50, dur := 2 } = [-1, 0, 12] := by decide +kernel

/-- **C20, cost goal, first job of an unused tour**: when nobody waits in the new tour, the quote (route-level fixed cost
    included) is the total cost of the new tour, which is the change since an unused tour costs nothing -/
theorem quote_exact_cost_first (c : Ctx) (x : Act) (hobj : c.obj = .cost) (he : c.tour = [])
    (hnew : noWait c.m.t (c.veh.full [x]) c.veh.startLoc c.veh.dep = true) :
    costVector c 0 x = List.zipWith (· - ·) (fitnessOf c (insertAt c.acts 0 x) 0) (fitnessOf c c.acts 1) := by
  have ha := acts_eq_nil c he
  have hte : c.tour.isEmpty = true := by rw [he]; rfl
  have hest := cost_estimate c 0 x (Nat.zero_le _) (fun h => absurd (hte.symm.trans h) nofun) (by rw [ha]; exact hnew)
  unfold costVector fitnessOf transportFitness totalDuration
  rw [hest, leg_estimate_first c.m.d c x he, leg_estimate_first c.m.t c x he, ha]
  simp only [hobj, he, insertAt, List.take_nil, List.drop_nil, List.nil_append, List.isEmpty_nil, List.isEmpty_cons,
    if_true, List.zipWith_cons_cons, List.zipWith_nil_right, Bool.false_eq_true, if_false]
  rw [after_noWait _ _ _ _ hnew, Veh.full, durSum_append, durSum_endActs, durSum_cons]
  generalize totalDist c.m.d ([x] ++ c.veh.endActs) c.veh.startLoc * c.costs.perDist = D
  generalize totalDist c.m.t ([x] ++ c.veh.endActs) c.veh.startLoc = T
  congr 3
  simp only [Int.add_mul, Int.sub_mul, durSum, List.map_nil, List.sum_nil]
  lia

def exE : Ctx := { exK with tour := [] }
example : noWait exE.m.t (exE.veh.full [{ loc := 2, s := 0, e := 50, dur := 4 }]) exE.veh.startLoc exE.veh.dep = true ∧
    costVector exE 0 { loc := 2, s := 0, e := 50, dur := 4 } = [-1, 1, 42] := by decide +kernel

theorem sum_insertAt (vals : List Int) (i : Nat) (v : Int) : (insertAt vals i v).sum = vals.sum + v := by
  unfold insertAt
  have h : vals.sum = (vals.take i).sum + (vals.drop i).sum := by
    rw [← List.sum_append, List.take_append_drop]
  rw [List.sum_append, List.sum_cons, h]
  lia

/-- **C20, total value of served jobs**: the quoted (route-level) cost equals the change of the layer's value recomputed from
    the tour, whatever the position -/
theorem quote_exact_value (vals : List Int) (i : Nat) (v : Int) :
    valueFitness (insertAt vals i v) - valueFitness vals = valueQuote v := by
  unfold valueFitness valueQuote
  rw [sum_insertAt]
  lia

example : valueFitness (insertAt [3, 0, 7] 1 5) - valueFitness [3, 0, 7] = valueQuote 5 := by decide +kernel

end C20
