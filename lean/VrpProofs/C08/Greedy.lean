import VrpProofs.C08.Machine
/-!
# C08 — Greedy: invariant, the two folds of `add_all`, the population meets the specification
-/

namespace C08

variable {α : Type}

/-- what holds of `best_known` after any history in which `offered` was handed to the population -/
structure GInv (c : Cfg α) (offered : List α) (best : Option α) : Prop where
  sub : ∀ x, best = some x → x ∈ offered
  best : ∀ y ∈ offered, ∃ h, best = some h ∧ c.le h y = true

theorem GInv.init (c : Cfg α) (hp : TotalPreorder c.le) (b : Option α) : GInv c b.toList b := by
  cases b with
  | none => exact ⟨fun _ h => (nomatch h), fun _ h => (nomatch h)⟩
  | some x =>
    exact ⟨fun y h => List.mem_singleton.mpr (Option.some.inj h).symm,
      fun y h => ⟨x, rfl, List.mem_singleton.mp h ▸ hp.refl x⟩⟩

theorem Greedy.add_isSome (c : Cfg α) (best : Option α) (x : α) : ∃ n, (Greedy.add c best x).1 = some n := by
  unfold Greedy.add
  cases best with
  | none => exact ⟨x, rfl⟩
  | some b => dsimp only; split <;> exact ⟨_, rfl⟩

theorem Greedy.add_le (c : Cfg α) (hp : TotalPreorder c.le) (best : Option α) (x : α) :
    ∃ n, (Greedy.add c best x).1 = some n ∧ c.le n x = true ∧ (n = x ∨ best = some n) ∧
      ∀ b, best = some b → c.le n b = true := by
  unfold Greedy.add
  cases best with
  | none => exact ⟨x, rfl, hp.refl x, Or.inl rfl, fun _ h => nomatch h⟩
  | some b =>
    dsimp only
    cases hb : c.le b x with
    | true => exact ⟨b, rfl, hb, Or.inr rfl, fun b' h => Option.some.inj h ▸ hp.refl b⟩
    | false => exact ⟨x, rfl, hp.refl x, Or.inl rfl, fun b' h => Option.some.inj h ▸ hp.of_not hb⟩

theorem GInv.add {c : Cfg α} (hp : TotalPreorder c.le) {offered : List α} {best : Option α}
    (h : GInv c offered best) (x : α) : GInv c (offered ++ [x]) (Greedy.add c best x).1 := by
  obtain ⟨n, hn, hnx, hor, hnb⟩ := Greedy.add_le c hp best x
  rw [hn]
  refine ⟨fun y hy => ?_, fun y hy => ⟨n, rfl, ?_⟩⟩
  · cases hy
    rcases hor with rfl | hb
    · exact List.mem_append_right _ (List.mem_singleton_self _)
    · exact List.mem_append_left _ (h.sub _ hb)
  · rcases List.mem_append.mp hy with h1 | h1
    · obtain ⟨b, hb, hby⟩ := h.best y h1
      exact hp.trans _ _ _ (hnb b hb) hby
    · exact List.mem_singleton.mp h1 ▸ hnx

/-- the closure folded by `Greedy::add_all`: `Greedy.addAll sc c best xs` is `xs.foldl (Greedy.foldStep sc c) (best, false)`
    by definition -/
def Greedy.foldStep (sc : Bool) (c : Cfg α) (acc : Option α × Bool) (x : α) : Option α × Bool :=
  if sc && acc.2 then acc
  else
    let r := Greedy.add c acc.1 x
    (r.1, acc.2 || r.2)

theorem GInv.fold {c : Cfg α} (hp : TotalPreorder c.le) (xs : List α) :
    ∀ (offered : List α) (acc : Option α × Bool), GInv c offered acc.1 →
      GInv c (offered ++ xs) (xs.foldl (Greedy.foldStep false c) acc).1 := by
  induction xs with
  | nil => intro offered acc h; exact (List.append_nil offered).symm ▸ h
  | cons x xs ih =>
    intro offered acc h
    have := ih (offered ++ [x]) (Greedy.foldStep false c acc x) (h.add hp x)
    rwa [List.append_assoc] at this

theorem GInv.addAll {c : Cfg α} (hp : TotalPreorder c.le) {offered : List α} {best : Option α}
    (h : GInv c offered best) (xs : List α) : GInv c (offered ++ xs) (Greedy.addAll false c best xs).1 :=
  GInv.fold hp xs offered (best, false) h

theorem Greedy.add_ret (c : Cfg α) (hp : TotalPreorder c.le) (best : Option α) (x : α) :
    (Greedy.add c best x).2 = improved c.le best (Greedy.add c best x).1 := by
  unfold Greedy.add
  cases best with
  | none => rfl
  | some b =>
    dsimp only
    cases hb : c.le b x with
    | true => simp only [if_true, improved, hp.refl, Bool.not_true]
    | false => simp only [Bool.false_eq_true, if_false, improved, hb, Bool.not_false]

theorem improved_trans {le : α → α → Bool} (hp : TotalPreorder le) {o b n : Option α}
    (hob : ∀ x, o = some x → ∃ y, b = some y ∧ le y x = true)
    (hbn : ∀ y, b = some y → ∃ z, n = some z ∧ le z y = true) :
    (improved le o b || improved le b n) = improved le o n := by
  cases o with
  | none =>
    cases b with
    | none => exact Bool.false_or _
    | some y => obtain ⟨z, rfl, _⟩ := hbn y rfl; rfl
  | some x =>
    obtain ⟨y, rfl, hyx⟩ := hob x rfl
    obtain ⟨z, rfl, hzy⟩ := hbn y rfl
    show (!le x y || !le y z) = !le x z
    cases hxz : le x z with
    | true => rw [hp.trans _ _ _ hxz hzy, hp.trans _ _ _ hyx hxz]; rfl
    | false =>
      cases hxy : le x y with
      | false => rfl
      | true =>
        cases hyz : le y z with
        | false => rfl
        | true => rw [hp.trans _ _ _ hxy hyz] at hxz; cases hxz

theorem Greedy.fold_ret (c : Cfg α) (hp : TotalPreorder c.le) (best0 : Option α) (xs : List α) :
    ∀ acc : Option α × Bool, acc.2 = improved c.le best0 acc.1 →
      (∀ o, best0 = some o → ∃ b, acc.1 = some b ∧ c.le b o = true) →
      (xs.foldl (Greedy.foldStep false c) acc).2 = improved c.le best0 (xs.foldl (Greedy.foldStep false c) acc).1 := by
  induction xs with
  | nil => intro acc h _; exact h
  | cons x xs ih =>
    intro acc h1 h2
    obtain ⟨n, hn, _, _, hnb⟩ := Greedy.add_le c hp acc.1 x
    refine ih (Greedy.foldStep false c acc x) ?_ fun o ho => ?_
    · show (acc.2 || (Greedy.add c acc.1 x).2) = improved c.le best0 (Greedy.add c acc.1 x).1
      rw [h1, Greedy.add_ret c hp]
      exact improved_trans hp h2 fun y hy => ⟨n, hn, hnb y hy⟩
    · obtain ⟨b, hb, hbo⟩ := h2 o ho
      exact ⟨n, hn, hp.trans _ _ _ (hnb b hb) hbo⟩

theorem Greedy.addAll_ret (c : Cfg α) (hp : TotalPreorder c.le) (best : Option α) (xs : List α) :
    (Greedy.addAll false c best xs).2 = improved c.le best (Greedy.addAll false c best xs).1 :=
  Greedy.fold_ret c hp best xs (best, false) (improved_self hp best).symm fun o ho => ⟨o, ho, hp.refl o⟩

theorem Greedy.foldStep_fresh (sc : Bool) (c : Cfg α) (best : Option α) (x : α) :
    Greedy.foldStep sc c (best, false) x = Greedy.add c best x := by
  simp only [Greedy.foldStep, Bool.and_false, Bool.false_eq_true, if_false, Bool.false_or]

theorem Greedy.fold_sc_done (c : Cfg α) (b : Option α) (ys : List α) :
    ys.foldl (Greedy.foldStep true c) (b, true) = (b, true) := by
  induction ys with
  | nil => rfl
  | cons y ys ih => exact ih

/-- **`acc || self.add(x)` = the exhaustive fold on the prefix up to the first improving element** -/
theorem Greedy.addAll_shortCircuit (c : Cfg α) (best : Option α) (xs : List α) :
    Greedy.addAll true c best xs = Greedy.addAll false c best (consideredPrefix c.le best xs) := by
  show xs.foldl (Greedy.foldStep true c) (best, false) =
    (consideredPrefix c.le best xs).foldl (Greedy.foldStep false c) (best, false)
  induction xs with
  | nil => rfl
  | cons x xs ih =>
    cases best with
    | none => exact Greedy.fold_sc_done c (some x) xs
    | some b =>
      cases hb : c.le b x with
      | true =>
        have e : Greedy.add c (some b) x = (some b, false) := by simp only [Greedy.add, hb, if_true]
        simp only [consideredPrefix, hb, if_true, List.foldl_cons, Greedy.foldStep_fresh, e]
        exact ih
      | false =>
        have e : Greedy.add c (some b) x = (some x, true) := by simp only [Greedy.add, hb, Bool.false_eq_true, if_false]
        simp only [consideredPrefix, hb, Bool.false_eq_true, if_false, List.foldl_cons, List.foldl_nil,
          Greedy.foldStep_fresh, e]
        exact Greedy.fold_sc_done c (some x) xs

theorem Greedy.addAll_eff (sc : Bool) (c : Cfg α) (best : Option α) (xs : List α) :
    Greedy.addAll sc c best xs = Greedy.addAll false c best (greedyEff sc c best xs) := by
  cases sc with
  | false => rfl
  | true => exact Greedy.addAll_shortCircuit c best xs

theorem consideredPrefix_cons (le : α → α → Bool) (best : Option α) (x : α) (xs : List α) :
    consideredPrefix le best (x :: xs) = [x] ∨
      consideredPrefix le best (x :: xs) = x :: consideredPrefix le best xs := by
  cases best with
  | none => exact Or.inl rfl
  | some b =>
    simp only [consideredPrefix]
    split
    · exact Or.inr rfl
    · exact Or.inl rfl

theorem consideredPrefix_sublist (le : α → α → Bool) (best : Option α) (xs : List α) :
    (consideredPrefix le best xs).Sublist xs := by
  induction xs with
  | nil => exact List.Sublist.slnil
  | cons x xs ih =>
    rcases consideredPrefix_cons le best x xs with h | h <;> rw [h]
    · exact (List.nil_sublist xs).cons_cons x
    · exact ih.cons_cons x

theorem consideredPrefix_covers (le : α → α → Bool) (best : Option α) (xs : List α)
    (hs : xs.Pairwise (fun a b => le a b = true)) (y : α) (hy : y ∈ xs) :
    y ∈ consideredPrefix le best xs ∨ ∃ e ∈ consideredPrefix le best xs, le e y = true := by
  induction xs with
  | nil => cases hy
  | cons x xs ih =>
    rw [List.pairwise_cons] at hs
    rcases List.mem_cons.mp hy with rfl | h1
    · rcases consideredPrefix_cons le best y xs with h | h <;> rw [h] <;> exact Or.inl (List.mem_cons_self ..)
    · rcases consideredPrefix_cons le best x xs with h | h <;> rw [h]
      · exact Or.inr ⟨x, List.mem_singleton_self x, hs.1 y h1⟩
      · rcases ih hs.2 h1 with h2 | ⟨e, he, hey⟩
        · exact Or.inl (List.mem_cons_of_mem _ h2)
        · exact Or.inr ⟨e, List.mem_cons_of_mem _ he, hey⟩

theorem GInv.addAll_sorted {c : Cfg α} (hp : TotalPreorder c.le) {offered : List α} {best : Option α}
    (h : GInv c offered best) (xs : List α) (hs : xs.Pairwise (fun a b => c.le a b = true)) :
    GInv c (offered ++ xs) (Greedy.addAll true c best xs).1 := by
  rw [Greedy.addAll_shortCircuit]
  have h1 := h.addAll hp (consideredPrefix c.le best xs)
  refine ⟨fun x hx => ?_, fun y hy => ?_⟩
  · rcases List.mem_append.mp (h1.sub x hx) with h2 | h2
    · exact List.mem_append_left _ h2
    · exact List.mem_append_right _ ((consideredPrefix_sublist c.le best xs).subset h2)
  · rcases List.mem_append.mp hy with h2 | h2
    · exact h1.best y (List.mem_append_left _ h2)
    · rcases consideredPrefix_covers c.le best xs hs y h2 with h3 | ⟨e, he, hey⟩
      · exact h1.best y (List.mem_append_right _ h3)
      · obtain ⟨n, hn, hne⟩ := h1.best e (List.mem_append_right _ he)
        exact ⟨n, hn, hp.trans _ _ _ hne hey⟩

/-- `repeat_n(best_known, selection_size)` -/
theorem Greedy.select_mem (c : Cfg α) (best : Option α) {x : α} (hx : x ∈ Greedy.select c best) : best = some x := by
  cases best with
  | none => cases hx
  | some b => exact congrArg some (List.eq_of_mem_replicate hx).symm

theorem Greedy.select_nil_or_head (c : Cfg α) (best : Option α) :
    Greedy.select c best = [] ∨ (Greedy.select c best).head? = best := by
  cases best with
  | none => exact Or.inl rfl
  | some b =>
    show List.replicate c.selSize b = [] ∨ (List.replicate c.selSize b).head? = some b
    cases c.selSize with
    | zero => exact Or.inl rfl
    | succ k => exact Or.inr rfl

theorem Greedy.select_ne_nil (c : Cfg α) {b : α} (hsel : 1 ≤ c.selSize) : Greedy.select c (some b) ≠ [] :=
  fun h => absurd ((List.replicate_eq_nil_iff b).mp h) (Nat.ne_of_gt hsel)

section
variable [DecidableEq α]

theorem GInv.state {c : Cfg α} (sc : Bool) {offered : List α} {best : Option α} (h : GInv c offered best)
    (ret : Option Bool) (sel : Option (List α)) :
    stateOK (greedySpec sc c) offered ((greedyM sc c).observe best ret sel) = true := by
  cases best with
  | none => exact stateOK_intro (fun _ hr => nomatch hr) h.best List.Pairwise.nil rfl (Nat.zero_le _)
  | some b =>
    exact stateOK_intro (fun r hr => h.sub r (Option.mem_toList.mp hr)) h.best (List.pairwise_singleton _ _) rfl
      (Nat.le_refl _)

theorem greedy_meets (sc : Bool) {c : Cfg α} (hp : TotalPreorder c.le) :
    (greedyM sc c).Meets (greedySpec sc c) (GInv c) (fun _ _ => True) where
  add x h := h.add hp x
  addAll := @fun offered s xs h => by
    show GInv c (offered ++ greedyEff sc c s.toList.head? xs) (Greedy.addAll sc c s xs).1
    rw [Option.head?_toList, Greedy.addAll_eff]; exact h.addAll hp _
  onGen _ h := h
  state ret sel h := h.state sc ret sel
  ret_add s x := by
    show (Greedy.add c s x).2 = improved c.le s.toList.head? (Greedy.add c s x).1.toList.head?
    rw [Option.head?_toList, Option.head?_toList]; exact Greedy.add_ret c hp s x
  ret_addAll s xs := by
    show (Greedy.addAll sc c s xs).2 = improved c.le s.toList.head? (Greedy.addAll sc c s xs).1.toList.head?
    rw [Option.head?_toList, Option.head?_toList, Greedy.addAll_eff]; exact Greedy.addAll_ret c hp s _
  gen_ranked _ _ := rfl
  phase _ _ := Nat.le_refl _
  select := @fun offered s t h _ =>
    selOK_intro (fun x hx => h.sub x (Greedy.select_mem c s hx))
      (fun _ x hx => Option.mem_toList.mpr (Greedy.select_mem c s hx))
      (fun h0 hpos => by
        cases s with
        | none => cases h0
        | some b => exact Greedy.select_ne_nil c (of_decide_eq_true hpos))
      (fun _ => (Option.head?_toList (o := s)).symm ▸ Greedy.select_nil_or_head c s)

end

end C08
