import VrpProofs.C08.Basic
/-!
# C08 — what a population has to satisfy (`Machine.Keeps`, `Machine.Meets`), and what follows for every operation
sequence (generic over the population)
-/

namespace C08

variable {α σ : Type}

def opInds : Op α → List α
  | .add x => [x]
  | .addAll xs => xs
  | _ => []

def allOffered (ops : List (Op α)) : List α := ops.flatMap opInds

theorem allOffered_cons (op : Op α) (ops : List (Op α)) : allOffered (op :: ops) = opInds op ++ allOffered ops :=
  List.flatMap_cons

theorem Machine.step_ranked (m : Machine σ α) (s : σ) (op : Op α) :
    (m.step s op).2.ranked = m.ranked (m.step s op).1 := by
  cases op <;> rfl

theorem Machine.step_phase (m : Machine σ α) (s : σ) (op : Op α) :
    (m.step s op).2.phase = m.phase (m.step s op).1 := by
  cases op <;> rfl

theorem Machine.step_size (m : Machine σ α) (s : σ) (op : Op α) :
    (m.step s op).2.size = m.size (m.step s op).1 := by
  cases op <;> rfl

/-- the side condition on every operation of a sequence (used for the tapes of `select`), threaded through the
    states and the growing list of offered individuals exactly as `traceOK` threads them -/
def HypAll (sp : Spec α) (m : Machine σ α) (Hyp : List α → Op α → Prop) : List α → σ → List (Op α) → Prop
  | _, _, [] => True
  | offered, s, op :: ops =>
    Hyp (offered ++ sp.offeredBy (m.ranked s).head? op) op ∧
      HypAll sp m Hyp (offered ++ sp.offeredBy (m.ranked s).head? op) (m.step s op).1 ops

theorem HypAll_of_forall {sp : Spec α} {m : Machine σ α} {Hyp : List α → Op α → Prop} {ops : List (Op α)}
    (h : ∀ offered, ∀ op ∈ ops, Hyp offered op) (offered : List α) (s : σ) : HypAll sp m Hyp offered s ops := by
  induction ops generalizing offered s with
  | nil => trivial
  | cons op ops ih =>
    exact ⟨h _ op (List.mem_cons_self ..), ih (fun o op' hop => h o op' (List.mem_cons_of_mem _ hop)) _ _⟩

/-- what counts as offered after a sequence (for a population that looks at whole batches this is
    `offered ++ allOffered ops`) -/
def offeredAfter (sp : Spec α) (m : Machine σ α) : List α → σ → List (Op α) → List α
  | offered, _, [] => offered
  | offered, s, op :: ops =>
    offeredAfter sp m (offered ++ sp.offeredBy (m.ranked s).head? op) (m.step s op).1 ops

theorem offeredAfter_id (sp : Spec α) (m : Machine σ α) (heff : ∀ b xs, sp.eff b xs = xs)
    (offered : List α) (s : σ) (ops : List (Op α)) :
    offeredAfter sp m offered s ops = offered ++ allOffered ops := by
  induction ops generalizing offered s with
  | nil => exact (List.append_nil _).symm
  | cons op ops ih =>
    rw [offeredAfter, ih, allOffered_cons, List.append_assoc]
    cases op <;> simp only [Spec.offeredBy, opInds, heff]

theorem offeredAfter_sub (sp : Spec α) (m : Machine σ α) (ops : List (Op α)) :
    ∀ (offered : List α) (s : σ) (x : α), x ∈ offered → x ∈ offeredAfter sp m offered s ops := by
  induction ops with
  | nil => intro offered s x h; exact h
  | cons op ops ih => intro offered s x h; exact ih _ _ x (List.mem_append_left _ h)

theorem offeredAfter_adds (sp : Spec α) (m : Machine σ α) (xs : List α) (ops : List (Op α)) :
    ∀ (offered : List α) (s : σ) (x : α), x ∈ xs → x ∈ offeredAfter sp m offered s (xs.map Op.add ++ ops) := by
  induction xs with
  | nil => intro _ _ x h; cases h
  | cons a as ih =>
    intro offered s x h
    rcases List.mem_cons.mp h with rfl | h1
    · exact offeredAfter_sub sp m (as.map Op.add ++ ops) (offered ++ [x]) (m.step s (.add x)).1 x
        (List.mem_append_right _ (List.mem_singleton_self x))
    · exact ih (offered ++ [a]) (m.step s (.add a)).1 x h1

theorem improved_self {le : α → α → Bool} (hp : TotalPreorder le) (o : Option α) : improved le o o = false := by
  cases o with
  | none => rfl
  | some a => simp only [improved, hp.refl, Bool.not_true]

theorem improved_iff (le : α → α → Bool) (old new : Option α) :
    improved le old new = true ↔
      (old = none ∧ new ≠ none) ∨ ∃ o n, old = some o ∧ new = some n ∧ le o n = false := by
  cases old <;> cases new <;> simp [improved]

section
variable [DecidableEq α]

/-- the part of `stepOK` that speaks of the state after the operation alone: `stepOK` is
    `stateOK && retOK && frameOK && selOK && phaseOK` -/
def stateOK (sp : Spec α) (offered : List α) (o : Obs α) : Bool :=
  headBest sp.le offered o.ranked && pairwiseB sp.le o.ranked && sizeOK sp o && rankedOffered offered o

theorem stateOK_intro {sp : Spec α} {offered : List α} {o : Obs α} (hsub : ∀ r ∈ o.ranked, r ∈ offered)
    (hbest : ∀ y ∈ offered, ∃ b, o.ranked.head? = some b ∧ sp.le b y = true)
    (hsorted : o.ranked.Pairwise (fun a b => sp.le a b = true)) (hsize : o.size = o.ranked.length)
    (hcap : o.ranked.length ≤ sp.cap) : stateOK sp offered o = true := by
  simp only [stateOK, sizeOK, rankedOffered, Bool.and_eq_true, beq_iff_eq, decide_eq_true_eq, List.all_eq_true, memB_iff]
  exact ⟨⟨⟨(headBest_iff ..).mpr ⟨fun b hb => hsub b (List.mem_of_mem_head? hb), hbest⟩, (pairwiseB_iff ..).mpr hsorted⟩,
    hsize, hsize ▸ hcap⟩, hsub⟩

theorem stepOK_intro {sp : Spec α} {offered prevRanked : List α} {prevPhase : Phase} {op : Op α} {o : Obs α}
    (h1 : stateOK sp offered o = true) (h2 : retOK sp prevRanked op o = true) (h3 : frameOK prevRanked op o = true)
    (h4 : selOK sp offered op o = true) (h5 : phaseOK prevPhase o = true) :
    stepOK sp offered prevRanked prevPhase op o = true := by
  unfold stateOK at h1
  simp only [stepOK, h1, h2, h3, h4, h5, Bool.and_self]

theorem selOK_intro {sp : Spec α} {offered : List α} {t : Tape α} {ret : Option Bool} {ranked : List α} {size : Nat}
    {phase : Phase} {l : List α} (hoff : ∀ x ∈ l, x ∈ offered) (hstored : sp.selStored = true → ∀ x ∈ l, x ∈ ranked)
    (hne : 0 < size → sp.selPos = true → l ≠ []) (hhead : phase ≠ .initial → l = [] ∨ l.head? = ranked.head?) :
    selOK sp offered (.select t) ⟨ret, ranked, size, phase, some l⟩ = true := by
  have hmem : ∀ {l' : List α}, (∀ x ∈ l, x ∈ l') → l.all (fun x => memB x l') = true :=
    fun h => List.all_eq_true.mpr fun x hx => (memB_iff x _).mpr (h x hx)
  show (l.all (fun x => memB x offered) && (!sp.selStored || l.all (fun x => memB x ranked))
    && (!(decide (size > 0) && sp.selPos) || !l.isEmpty)
    && (phase == .initial || l.isEmpty || optEq l.head? ranked.head?)) = true
  rw [Bool.and_eq_true, Bool.and_eq_true, Bool.and_eq_true]
  refine ⟨⟨⟨hmem hoff, ?_⟩, ?_⟩, ?_⟩
  · cases hs : sp.selStored
    · rfl
    · exact hmem (hstored hs)
  · by_cases h0 : 0 < size
    · cases hp : sp.selPos
      · exact Bool.or_eq_true_iff.mpr (.inl (by rw [Bool.and_false]; rfl))
      · cases l with
        | nil => exact absurd rfl (hne h0 hp)
        | cons a as => exact Bool.or_true _
    · rw [decide_eq_false h0]; rfl
  · by_cases hph : phase = .initial
    · rw [hph]; rfl
    · rcases hhead hph with h | h
      · rw [h]; exact Bool.or_eq_true_iff.mpr (.inl (Bool.or_true _))
      · exact Bool.or_eq_true_iff.mpr (.inr (decide_eq_true h))

/-- `Inv offered s`: what holds of the state `s` when `offered` is what the population has been handed so far.
    Every operation keeps it (for the individuals the specification counts as offered), and it implies the state
    part of the specification. -/
structure Machine.Keeps (m : Machine σ α) (sp : Spec α) (Inv : List α → σ → Prop) : Prop where
  add : ∀ {offered s} (x : α), Inv offered s → Inv (offered ++ [x]) (m.add s x).1
  addAll : ∀ {offered s} (xs : List α), Inv offered s → Inv (offered ++ sp.eff (m.ranked s).head? xs) (m.addAll s xs).1
  onGen : ∀ {offered s} (st : Stats), Inv offered s → Inv offered (m.onGen s st)
  state : ∀ {offered s} (ret : Option Bool) (sel : Option (List α)), Inv offered s →
    stateOK sp offered (m.observe s ret sel) = true

/-- … and what is observed besides: `add`/`add_all` return "improved", a generation tick leaves the ranking
    alone, the phase never moves back, `select` meets `selOK` (under the side condition `Hyp` on its tape) -/
structure Machine.Meets (m : Machine σ α) (sp : Spec α) (Inv : List α → σ → Prop) (Hyp : List α → Op α → Prop) : Prop
    extends m.Keeps sp Inv where
  ret_add : ∀ (s : σ) (x : α), (m.add s x).2 = improved sp.le (m.ranked s).head? (m.ranked (m.add s x).1).head?
  ret_addAll : ∀ (s : σ) (xs : List α),
    (m.addAll s xs).2 = improved sp.le (m.ranked s).head? (m.ranked (m.addAll s xs).1).head?
  gen_ranked : ∀ (s : σ) (st : Stats), m.ranked (m.onGen s st) = m.ranked s
  phase : ∀ (s : σ) (op : Op α), (m.phase s).rank ≤ (m.phase (m.step s op).1).rank
  select : ∀ {offered s} (t : Tape α), Inv offered s → Hyp offered (.select t) →
    selOK sp offered (.select t) (m.observe s none (some (m.select s t))) = true

variable {m : Machine σ α} {sp : Spec α} {Inv : List α → σ → Prop} {Hyp : List α → Op α → Prop}

theorem Machine.Keeps.step (K : m.Keeps sp Inv) {offered : List α} {s : σ} (op : Op α) (h : Inv offered s) :
    Inv (offered ++ sp.offeredBy (m.ranked s).head? op) (m.step s op).1 := by
  cases op with
  | add x => exact K.add x h
  | addAll xs => exact K.addAll xs h
  | gen st => exact (List.append_nil offered).symm ▸ K.onGen st h
  | select t => exact (List.append_nil offered).symm ▸ h

theorem Machine.Keeps.run (K : m.Keeps sp Inv) (ops : List (Op α)) :
    ∀ (offered : List α) (s : σ), Inv offered s → Inv (offeredAfter sp m offered s ops) (m.run s ops) := by
  induction ops with
  | nil => intro offered s h; exact h
  | cons op ops ih => intro offered s h; exact ih _ _ (K.step op h)

theorem Machine.Keeps.run_all (K : m.Keeps sp Inv) (heff : ∀ b xs, sp.eff b xs = xs) {offered : List α} {s : σ}
    (h : Inv offered s) (ops : List (Op α)) : Inv (offered ++ allOffered ops) (m.run s ops) :=
  offeredAfter_id sp m heff offered s ops ▸ K.run ops offered s h

theorem Machine.Keeps.head_le (K : m.Keeps sp Inv) {offered : List α} {s : σ} (h : Inv offered s) {y : α}
    (hy : y ∈ offered) : ∃ b, (m.ranked s).head? = some b ∧ b ∈ offered ∧ sp.le b y = true := by
  have hs := K.state none none h
  simp only [stateOK, Bool.and_eq_true] at hs
  have ⟨hmem, hbest⟩ := (headBest_iff sp.le offered (m.ranked s)).mp hs.1.1.1
  have ⟨b, hb, hle⟩ := hbest y hy
  exact ⟨b, hb, hmem b hb, hle⟩

/-- individuals offered one by one always count as offered, whatever `eff` does to the batches of the generations -/
theorem Machine.Keeps.seeded (K : m.Keeps sp Inv) {s0 : σ} (h0 : Inv [] s0) (initial : List α)
    (gens : List (List α × Stats)) {y : α} (hy : y ∈ initial) :
    ∃ b, (m.ranked (m.run s0 (solveOps initial gens))).head? = some b ∧ sp.le b y = true :=
  have ⟨b, hb, _, hle⟩ := K.head_le (K.run (solveOps initial gens) [] s0 h0) (offeredAfter_adds sp m initial _ [] s0 y hy)
  ⟨b, hb, hle⟩

theorem Machine.Meets.step (M : m.Meets sp Inv Hyp) {offered : List α} {s : σ} (op : Op α) (h : Inv offered s)
    (hyp : Hyp (offered ++ sp.offeredBy (m.ranked s).head? op) op) :
    stepOK sp (offered ++ sp.offeredBy (m.ranked s).head? op) (m.ranked s) (m.phase s) op (m.step s op).2 = true := by
  have hph : phaseOK (m.phase s) (m.step s op).2 = true := by
    rw [phaseOK, m.step_phase]; exact decide_eq_true (M.phase s op)
  have hst := fun ret sel => M.state ret sel (M.toKeeps.step op h)
  cases op with
  | add x => exact stepOK_intro (hst _ _) (beq_iff_eq.mpr (congrArg some (M.ret_add s x))) rfl rfl hph
  | addAll xs => exact stepOK_intro (hst _ _) (beq_iff_eq.mpr (congrArg some (M.ret_addAll s xs))) rfl rfl hph
  | gen st => exact stepOK_intro (hst _ _) rfl (decide_eq_true (M.gen_ranked s st)) rfl hph
  | select t =>
    have e : offered ++ sp.offeredBy (m.ranked s).head? (.select t) = offered := List.append_nil _
    rw [e] at hyp hst ⊢
    exact stepOK_intro (hst _ _) rfl (decide_eq_true rfl) (M.select t h hyp) hph

theorem Machine.Meets.trace (M : m.Meets sp Inv Hyp) (ops : List (Op α)) :
    ∀ (offered : List α) (s : σ), Inv offered s → HypAll sp m Hyp offered s ops →
      traceOK sp offered (m.ranked s) (m.phase s) (m.trace s ops) = true := by
  induction ops with
  | nil => intros; rfl
  | cons op ops ih =>
    intro offered s hinv hhyp
    simp only [Machine.trace, traceOK, Bool.and_eq_true]
    refine ⟨M.step op hinv hhyp.1, ?_⟩
    rw [Machine.step_ranked, Machine.step_phase]
    exact ih _ _ (M.toKeeps.step op hinv) hhyp.2

end

end C08
