import VrpModel.C08
/-!
# C08 — helper lemmas: Boolean spec predicates vs. propositions, `dedupBy`, the sort/dedup/truncate core
-/

namespace C08

variable {α : Type}

/-- the objective is a total preorder (for single-layer goals that is the subject of property C09; no C09 theorem is
    used here) -/
structure TotalPreorder (le : α → α → Bool) : Prop where
  trans : ∀ a b c, le a b = true → le b c = true → le a c = true
  total : ∀ a b, (le a b || le b a) = true

theorem TotalPreorder.refl {le : α → α → Bool} (h : TotalPreorder le) (a : α) : le a a = true := by
  have := h.total a a; simpa using this

theorem TotalPreorder.of_not {le : α → α → Bool} (h : TotalPreorder le) {a b : α} (hn : le a b = false) :
    le b a = true := by
  have := h.total a b; simpa [hn] using this

theorem TotalPreorder.of_rel {r : α → α → Prop} [DecidableRel r] (htrans : ∀ a b c, r a b → r b c → r a c)
    (htotal : ∀ a b, r a b ∨ r b a) : TotalPreorder (fun a b => decide (r a b)) :=
  ⟨fun a b c h1 h2 => decide_eq_true (htrans a b c (of_decide_eq_true h1) (of_decide_eq_true h2)),
   fun a b => (htotal a b).elim (fun h => by simp only [decide_eq_true h, Bool.true_or])
     (fun h => by simp only [decide_eq_true h, Bool.or_true])⟩

theorem pairwiseB_iff (le : α → α → Bool) (l : List α) :
    pairwiseB le l = true ↔ l.Pairwise (fun a b => le a b = true) := by
  induction l with
  | nil => simp [pairwiseB]
  | cons x xs ih => simp [pairwiseB, ih, List.all_eq_true]

section
variable [DecidableEq α]

theorem memB_iff (x : α) (l : List α) : memB x l = true ↔ x ∈ l := by
  simp [memB]

theorem headBest_iff (le : α → α → Bool) (offered ranked : List α) :
    headBest le offered ranked = true ↔
      (∀ h, ranked.head? = some h → h ∈ offered) ∧ ∀ y ∈ offered, ∃ b, ranked.head? = some b ∧ le b y = true := by
  unfold headBest
  cases ranked.head? with
  | none => simp [List.eq_nil_iff_forall_not_mem]
  | some h => simp only [Bool.and_eq_true, memB_iff, List.all_eq_true, Option.some.injEq, forall_eq', exists_eq_left']

end

theorem dedupBy_go_sublist (same : α → α → Bool) (k : α) (l : List α) : (dedupBy.go same k l).Sublist l := by
  induction l generalizing k with
  | nil => simp [dedupBy.go]
  | cons y ys ih =>
    simp only [dedupBy.go]
    split
    · exact (ih k).trans (List.sublist_cons_self y ys)
    · exact (ih y).cons_cons y

theorem dedupBy_sublist (same : α → α → Bool) (l : List α) : (dedupBy same l).Sublist l := by
  cases l with
  | nil => simp [dedupBy]
  | cons x xs => simp only [dedupBy]; exact (dedupBy_go_sublist same x xs).cons_cons x

theorem dedupBy_head? (same : α → α → Bool) (l : List α) : (dedupBy same l).head? = l.head? := by
  cases l <;> simp [dedupBy]

/-- `(dedup_by ∘ sort_by) ; truncate` on the extended vector: the `inds` of `Elitism.addWithIter c s xs` are
    `core c (s.inds ++ xs)` by definition (`addWithIter_inds`) -/
def core (c : Cfg α) (l : List α) : List α := (dedupBy c.same (l.mergeSort c.le)).take c.cap

theorem core_sublist (c : Cfg α) (l : List α) : (core c l).Sublist (l.mergeSort c.le) :=
  (List.take_sublist _ _).trans (dedupBy_sublist _ _)

theorem core_mem (c : Cfg α) (l : List α) {x : α} (h : x ∈ core c l) : x ∈ l :=
  (List.mergeSort_perm l c.le).mem_iff.mp ((core_sublist c l).subset h)

theorem core_sorted (c : Cfg α) (hp : TotalPreorder c.le) (l : List α) :
    (core c l).Pairwise (fun a b => c.le a b = true) :=
  (List.pairwise_mergeSort (le := c.le) (fun a b d => hp.trans a b d) hp.total l).sublist (core_sublist c l)

theorem core_length (c : Cfg α) (l : List α) : (core c l).length ≤ c.cap := by
  unfold core; exact List.length_take_le _ _

theorem core_head? (c : Cfg α) (hcap : 0 < c.cap) (l : List α) :
    (core c l).head? = (l.mergeSort c.le).head? := by
  unfold core
  rw [List.head?_take, if_neg (by omega), dedupBy_head?]

theorem core_head_le (c : Cfg α) (hp : TotalPreorder c.le) (hcap : 0 < c.cap) (l : List α) {y : α} (hy : y ∈ l) :
    ∃ h, (core c l).head? = some h ∧ c.le h y = true := by
  rw [core_head? c hcap]
  have hs := List.pairwise_mergeSort (le := c.le) (fun a b d => hp.trans a b d) hp.total l
  have hym : y ∈ l.mergeSort c.le := (List.mergeSort_perm l c.le).mem_iff.mpr hy
  generalize l.mergeSort c.le = m at hs hym
  cases m with
  | nil => cases hym
  | cons x xs =>
    refine ⟨x, rfl, ?_⟩
    rw [List.pairwise_cons] at hs
    rcases List.mem_cons.mp hym with rfl | hmem
    · exact hp.refl _
    · exact hs.1 y hmem

theorem take_ne_nil {l : List α} {n : Nat} (hl : l ≠ []) (hn : 1 ≤ n) : l.take n ≠ [] :=
  fun h => (List.take_eq_nil_iff.mp h).elim (fun h0 => absurd hn (h0 ▸ by decide)) hl

theorem head?_append_left {l l' : List α} (hl : l ≠ []) : (l ++ l').head? = l.head? := by
  cases l with
  | nil => exact absurd rfl hl
  | cons a as => rfl

theorem take_head? {l : List α} {n : Nat} (hn : 1 ≤ n) : (l.take n).head? = l.head? := by
  rw [List.head?_take, if_neg (Nat.ne_of_gt hn)]

end C08
