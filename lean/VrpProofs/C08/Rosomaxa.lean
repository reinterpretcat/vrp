import VrpProofs.C08.Elitism
/-!
# C08 — Rosomaxa: the elite path and the phase machine; the population meets the specification
-/

namespace C08

variable {α : Type}

/-- what holds of a `Rosomaxa` after any history in which `offered` was handed to it -/
structure RInv (c : Cfg α) (offered : List α) (s : RState α) : Prop where
  elite : EInv c offered s.elite.inds
  /-- while in the initial phase every offered individual is remembered -/
  init : s.phase = .initial → s.initSols = offered
  /-- the selection size stored with the later phases is positive -/
  sel : s.phase ≠ .initial → 1 ≤ s.phaseSel

theorem RInv.empty (c : Cfg α) : RInv c [] (RState.empty : RState α) :=
  ⟨EInv.nil c, fun _ => rfl, fun h => absurd rfl h⟩

theorem not_comparable {c : Cfg α} (hp : TotalPreorder c.le) {best : Option α} {y : α}
    (h : Rosomaxa.comparable c best y = false) : ∃ b, best = some b ∧ c.le b y = true := by
  cases best with
  | none => cases h
  | some b => exact ⟨b, rfl, hp.of_not h⟩

/-- **the elite path**: filtering by the best known and then `add_all` on the elite keeps the invariant for the
    WHOLE batch — what the filter drops is no better than the current head, and the new head is no worse than it -/
theorem EInv.rosomaxaAddAll {c : Cfg α} (hp : TotalPreorder c.le) (hcap : 0 < c.cap) {offered : List α}
    {e : ElState α} (h : EInv c offered e.inds) (xs : List α) :
    EInv c (offered ++ xs)
      (Elitism.addAll c e (xs.filter (Rosomaxa.comparable c e.inds.head?))).1.inds := by
  have h1 := h.addAll hp hcap (xs.filter (Rosomaxa.comparable c e.inds.head?))
  refine ⟨h1.sorted, fun x hx => ?_, h1.len, fun y hy => ?_⟩
  · rcases List.mem_append.mp (h1.sub x hx) with h2 | h2
    · exact List.mem_append_left _ h2
    · exact List.mem_append_right _ (List.mem_filter.mp h2).1
  · rcases List.mem_append.mp hy with h2 | h2
    · exact h1.best y (List.mem_append_left _ h2)
    · cases hc : Rosomaxa.comparable c e.inds.head? y with
      | true => exact h1.best y (List.mem_append_right _ (List.mem_filter.mpr ⟨h2, hc⟩))
      | false =>
        obtain ⟨b, hb, hby⟩ := not_comparable hp hc
        obtain ⟨n, hn, hnb⟩ := h1.best b (List.mem_append_left _ (h.sub b (List.mem_of_mem_head? hb)))
        exact ⟨n, hn, hp.trans _ _ _ hnb hby⟩

theorem selOf_pos (c : Cfg α) (st : Stats) (h : 1 ≤ c.selSize) : 1 ≤ Rosomaxa.selOf c st := by
  unfold Rosomaxa.selOf
  split
  · exact slowSize_pos _ _
  · exact h

theorem halve_pos (n : Nat) : 1 ≤ Rosomaxa.halve n :=
  Nat.le_min.mpr ⟨Nat.le_trans (by decide) (Nat.le_max_right _ 2), by decide⟩

/-- the one case analysis of `update_phase`: what follows reads off the part it needs -/
theorem updatePhase_cases (c : Cfg α) (rc : RCfg) (s : RState α) (st : Stats) :
    Rosomaxa.updatePhase c rc s st = s ∨
      ((Rosomaxa.updatePhase c rc s st).elite = s.elite ∧ (Rosomaxa.updatePhase c rc s st).phase ≠ .initial ∧
        s.phase.rank ≤ (Rosomaxa.updatePhase c rc s st).phase.rank ∧
        ((Rosomaxa.updatePhase c rc s st).phaseSel = Rosomaxa.selOf c st ∨
          (Rosomaxa.updatePhase c rc s st).phaseSel = Rosomaxa.halve s.phaseSel)) := by
  unfold Rosomaxa.updatePhase
  split
  · rename_i h
    split
    · exact Or.inr ⟨rfl, Phase.noConfusion, h ▸ Nat.zero_le _, Or.inl rfl⟩
    · split
      · exact Or.inr ⟨rfl, Phase.noConfusion, h ▸ Nat.zero_le _, Or.inl rfl⟩
      · exact Or.inl rfl
  · rename_i h
    split
    · exact Or.inr ⟨rfl, h ▸ Phase.noConfusion, Nat.le_refl _, Or.inl rfl⟩
    · exact Or.inr ⟨rfl, Phase.noConfusion, h ▸ Nat.le_succ 1, Or.inl rfl⟩
  · rename_i h
    exact Or.inr ⟨rfl, h ▸ Phase.noConfusion, Nat.le_refl _, Or.inr rfl⟩

theorem updatePhase_elite (c : Cfg α) (rc : RCfg) (s : RState α) (st : Stats) :
    (Rosomaxa.updatePhase c rc s st).elite = s.elite := by
  rcases updatePhase_cases c rc s st with h | h
  · rw [h]
  · exact h.1

theorem updatePhase_rank (c : Cfg α) (rc : RCfg) (s : RState α) (st : Stats) :
    s.phase.rank ≤ (Rosomaxa.updatePhase c rc s st).phase.rank := by
  rcases updatePhase_cases c rc s st with h | h
  · rw [h]; exact Nat.le_refl _
  · exact h.2.2.1

theorem rosomaxa_step_rank (c : Cfg α) (rc : RCfg) (s : RState α) (op : Op α) :
    s.phase.rank ≤ ((rosomaxaM c rc).step s op).1.phase.rank := by
  cases op with
  | gen st => exact updatePhase_rank c rc s st
  | _ => exact Nat.le_refl _

theorem RInv.updatePhase {c : Cfg α} (hsel : 1 ≤ c.selSize) (rc : RCfg) {offered : List α} {s : RState α}
    (h : RInv c offered s) (st : Stats) : RInv c offered (Rosomaxa.updatePhase c rc s st) := by
  rcases updatePhase_cases c rc s st with h1 | ⟨h1, h2, _, h3⟩
  · rw [h1]; exact h
  · refine ⟨h1 ▸ h.elite, fun hc => absurd hc h2, fun _ => ?_⟩
    rcases h3 with h3 | h3 <;> rw [h3]
    · exact selOf_pos c st hsel
    · exact halve_pos _

/-- assumption about the part of `select()` that comes from the GSOM nodes (C19's domain): nodes hold
    offered individuals only -/
def tapeHyp : List α → Op α → Prop
  | offered, .select t => ∀ x ∈ t.extra, x ∈ offered
  | _, _ => True

theorem rosomaxa_select {c : Cfg α} (hsel : 1 ≤ c.selSize) {offered : List α} {s : RState α}
    (h : RInv c offered s) (t : Tape α) (ht : ∀ x ∈ t.extra, x ∈ offered) :
    (∀ x ∈ Rosomaxa.select c s t, x ∈ offered) ∧
      (s.elite.inds ≠ [] → Rosomaxa.select c s t ≠ []) ∧
      (s.phase ≠ .initial → Rosomaxa.select c s t = [] ∨ (Rosomaxa.select c s t).head? = s.elite.inds.head?) := by
  have hE : ∀ x ∈ Elitism.select c s.elite t.picks, x ∈ offered :=
    fun x hx => h.elite.sub x (Elitism.select_mem c s.elite _ hx)
  have hne := fun hi => Elitism.select_ne_nil c s.elite t.picks hsel hi
  have hhead := Elitism.select_head? c s.elite t.picks hsel
  unfold Rosomaxa.select
  cases hph : s.phase with
  | initial =>
    dsimp only
    rw [h.init hph]
    exact ⟨fun x hx => hx, fun hi hoff => hi (h.elite.empty_iff.mpr hoff), fun hc => absurd rfl hc⟩
  | exploration =>
    have hps : 1 ≤ s.phaseSel := h.sel (hph ▸ Phase.noConfusion)
    have hk : 1 ≤ max t.k 1 := Nat.le_max_right ..
    dsimp only
    refine ⟨fun x hx => ?_, fun hi => ?_, fun _ => ?_⟩
    · rcases List.mem_append.mp (List.mem_of_mem_take hx) with h1 | h1
      · exact hE x (List.mem_of_mem_take h1)
      · exact ht x h1
    · exact take_ne_nil (fun hnil => take_ne_nil (hne hi) hk (List.append_eq_nil_iff.mp hnil).1) hps
    · by_cases hi : s.elite.inds = []
      · -- nothing was ever offered, so the nodes have nothing either
        have hex : t.extra = [] :=
          List.eq_nil_iff_forall_not_mem.mpr fun a ha => by have := ht a ha; rw [h.elite.empty_iff.mp hi] at this; cases this
        exact Or.inl (by simp only [Elitism.select, hi, hex, List.isEmpty_nil, if_true, List.take_nil, List.append_nil])
      · exact Or.inr (by rw [take_head? hps, head?_append_left (take_ne_nil (hne hi) hk), take_head? hk, hhead])
  | exploitation =>
    have hps : 1 ≤ s.phaseSel := h.sel (hph ▸ Phase.noConfusion)
    dsimp only
    exact ⟨fun x hx => hE x (List.mem_of_mem_take hx), fun hi => take_ne_nil (hne hi) hps,
      fun _ => Or.inr (by rw [take_head? hps, hhead])⟩

theorem RInv.addAll {c : Cfg α} (hp : TotalPreorder c.le) (hcap : 0 < c.cap) {offered : List α} {s : RState α}
    (h : RInv c offered s) (xs : List α) : RInv c (offered ++ xs) (Rosomaxa.addAll c s xs).1 := by
  refine ⟨h.elite.rosomaxaAddAll hp hcap xs, fun hph => ?_, h.sel⟩
  have hph' : s.phase = .initial := hph
  simp only [Rosomaxa.addAll, hph', h.init hph']

section
variable [DecidableEq α]

theorem rosomaxa_keeps {c : Cfg α} (rc : RCfg) (hp : TotalPreorder c.le) (hcap : 0 < c.cap) (hsel : 1 ≤ c.selSize) :
    (rosomaxaM c rc).Keeps (rosomaxaSpec c) (RInv c) where
  add x h := h.addAll hp hcap [x]
  addAll xs h := h.addAll hp hcap xs
  onGen st h := h.updatePhase hsel rc st
  state _ _ h := stateOK_intro h.elite.sub h.elite.best h.elite.sorted rfl h.elite.len

theorem rosomaxa_meets {c : Cfg α} (rc : RCfg) (hp : TotalPreorder c.le) (hcap : 0 < c.cap) (hsel : 1 ≤ c.selSize)
    (hfit : ∀ a b, c.fitEq a b = (c.le a b && c.le b a)) :
    (rosomaxaM c rc).Meets (rosomaxaSpec c) (RInv c) tapeHyp where
  toKeeps := rosomaxa_keeps rc hp hcap hsel
  ret_add s _ := addAll_ret_improved hp hcap hfit s.elite _
  ret_addAll s _ := addAll_ret_improved hp hcap hfit s.elite _
  gen_ranked s st := congrArg ElState.inds (updatePhase_elite c rc s st)
  phase := rosomaxa_step_rank c rc
  select := @fun _ _ t h hyp =>
    have ⟨s1, s2, s3⟩ := rosomaxa_select hsel h t hyp
    selOK_intro s1 (fun hs => nomatch hs) (fun h0 _ => s2 (List.ne_nil_of_length_pos h0)) s3

end

end C08
