import VrpProofs.C08.Machine
/-!
# C08 — Elitism: invariant, return value, selection, the population meets the specification
-/

namespace C08

variable {α : Type}

/-- what holds of the ranked individuals of an `Elitism` after any history in which `offered` was handed to it -/
structure EInv (c : Cfg α) (offered inds : List α) : Prop where
  sorted : inds.Pairwise (fun a b => c.le a b = true)
  sub : ∀ x ∈ inds, x ∈ offered
  len : inds.length ≤ c.cap
  best : ∀ y ∈ offered, ∃ h, inds.head? = some h ∧ c.le h y = true

theorem EInv.nil (c : Cfg α) : EInv c [] [] :=
  ⟨List.Pairwise.nil, fun _ h => (nomatch h), Nat.zero_le _, fun _ h => (nomatch h)⟩

theorem EInv.empty_iff {c : Cfg α} {offered inds : List α} (h : EInv c offered inds) : inds = [] ↔ offered = [] := by
  constructor <;> intro h0 <;> refine List.eq_nil_iff_forall_not_mem.mpr fun a ha => ?_
  · obtain ⟨x, hx, _⟩ := h.best a ha
    rw [h0] at hx; cases hx
  · have := h.sub a ha
    rw [h0] at this; cases this

theorem addWithIter_inds (c : Cfg α) (s : ElState α) (xs : List α) :
    (Elitism.addWithIter c s xs).1.inds = core c (s.inds ++ xs) := rfl

theorem addWithIter_speed (c : Cfg α) (s : ElState α) (xs : List α) :
    (Elitism.addWithIter c s xs).1.speed = s.speed := rfl

theorem addWithIter_ret (c : Cfg α) (s : ElState α) (xs : List α) :
    (Elitism.addWithIter c s xs).2 = isImproved c s.inds.head? (core c (s.inds ++ xs)).head? := rfl

theorem addWithIter_head_le_old {c : Cfg α} (hp : TotalPreorder c.le) (hcap : 0 < c.cap) (s : ElState α) (xs : List α)
    {o : α} (ho : s.inds.head? = some o) :
    ∃ n, (core c (s.inds ++ xs)).head? = some n ∧ c.le n o = true :=
  core_head_le c hp hcap (s.inds ++ xs) (List.mem_append_left _ (List.mem_of_mem_head? ho))

theorem EInv.addWithIter {c : Cfg α} (hp : TotalPreorder c.le) (hcap : 0 < c.cap) {offered : List α} {s : ElState α}
    (h : EInv c offered s.inds) (xs : List α) :
    EInv c (offered ++ xs) (Elitism.addWithIter c s xs).1.inds := by
  rw [addWithIter_inds]
  refine ⟨core_sorted c hp _, fun x hx => ?_, core_length c _, fun y hy => ?_⟩
  · rcases List.mem_append.mp (core_mem c _ hx) with h1 | h1
    · exact List.mem_append_left _ (h.sub x h1)
    · exact List.mem_append_right _ h1
  · rcases List.mem_append.mp hy with h1 | h1
    · -- an earlier individual: the new head is no worse than the old head, which was no worse than `y`
      obtain ⟨o, ho, hoy⟩ := h.best y h1
      obtain ⟨n, hn, hno⟩ := addWithIter_head_le_old hp hcap s xs ho
      exact ⟨n, hn, hp.trans _ _ _ hno hoy⟩
    · exact core_head_le c hp hcap (s.inds ++ xs) (List.mem_append_right _ h1)

theorem EInv.addAll {c : Cfg α} (hp : TotalPreorder c.le) (hcap : 0 < c.cap) {offered : List α} {s : ElState α}
    (h : EInv c offered s.inds) (xs : List α) :
    EInv c (offered ++ xs) (Elitism.addAll c s xs).1.inds := by
  cases xs with
  | nil => exact (List.append_nil offered).symm ▸ h
  | cons x xs => exact h.addWithIter hp hcap (x :: xs)

/-- `is_improved` (fitness of the head changed) says "the best known strictly improved, or appeared",
    when equal fitness means equal rank -/
theorem addWithIter_ret_improved {c : Cfg α} (hp : TotalPreorder c.le) (hcap : 0 < c.cap)
    (hfit : ∀ a b, c.fitEq a b = (c.le a b && c.le b a)) (s : ElState α) (xs : List α) (hne : s.inds ++ xs ≠ []) :
    (Elitism.addWithIter c s xs).2 = improved c.le s.inds.head? (Elitism.addWithIter c s xs).1.inds.head? := by
  rw [addWithIter_ret, addWithIter_inds]
  obtain ⟨y, hy⟩ := List.exists_mem_of_ne_nil _ hne
  obtain ⟨n, hn, _⟩ := core_head_le c hp hcap (s.inds ++ xs) hy
  rw [hn]
  cases ho : s.inds.head? with
  | none => rfl
  | some o =>
    obtain ⟨n', hn', hle⟩ := addWithIter_head_le_old hp hcap s xs ho
    rw [hn] at hn'; cases hn'
    simp only [isImproved, improved, hfit, hle, Bool.and_true]

theorem addAll_ret_improved {c : Cfg α} (hp : TotalPreorder c.le) (hcap : 0 < c.cap)
    (hfit : ∀ a b, c.fitEq a b = (c.le a b && c.le b a)) (s : ElState α) (xs : List α) :
    (Elitism.addAll c s xs).2 = improved c.le s.inds.head? (Elitism.addAll c s xs).1.inds.head? := by
  cases xs with
  | nil => exact (improved_self hp _).symm
  | cons x xs => exact addWithIter_ret_improved hp hcap hfit s (x :: xs) (List.append_ne_nil_of_right_ne_nil _ (List.cons_ne_nil x xs))

theorem slowSize_pos (sel r8 : Nat) : 1 ≤ slowSize sel r8 := by
  unfold slowSize
  split
  · exact Nat.le_refl 1
  · rename_i h
    -- `n > 8 ⇒ (2 * n + 8) / 16 ≥ 1` with `n = sel * r8`
    rw [Nat.mul_assoc]
    generalize sel * r8 = n at h ⊢
    omega

theorem selectionSize_pos (c : Cfg α) (s : ElState α) (h : 1 ≤ c.selSize) : 1 ≤ Elitism.selectionSize c s := by
  unfold Elitism.selectionSize
  split
  · exact slowSize_pos _ _
  · exact h

theorem Elitism.select_mem (c : Cfg α) (s : ElState α) (picks : List Nat) {x : α}
    (hx : x ∈ Elitism.select c s picks) : x ∈ s.inds := by
  unfold Elitism.select at hx
  split at hx
  · cases hx
  · obtain ⟨i, _, hi⟩ := List.mem_filterMap.mp hx
    exact List.mem_of_getElem? hi

/-- the one case analysis of `Elitism::select` (the index list starts with `0`) -/
theorem Elitism.select_cases (c : Cfg α) (s : ElState α) (picks : List Nat) :
    ((s.inds = [] ∨ Elitism.selectionSize c s = 0) ∧ Elitism.select c s picks = []) ∨
      ∃ a as rest, s.inds = a :: as ∧ Elitism.select c s picks = a :: rest := by
  cases hi : s.inds with
  | nil => exact .inl ⟨.inl rfl, by simp only [Elitism.select, hi, List.isEmpty_nil, if_true]⟩
  | cons a as =>
    cases hk : Elitism.selectionSize c s with
    | zero => exact .inl ⟨.inr rfl, by simp only [Elitism.select, hk, List.take_zero, List.filterMap_nil, ite_self]⟩
    | succ k =>
      obtain ⟨rest, hr⟩ : ∃ rest, Elitism.select c s picks = a :: rest := by
        simp only [Elitism.select, hi, hk, List.isEmpty_cons, Bool.false_eq_true, if_false, List.take_succ_cons,
          List.filterMap_cons, List.getElem?_cons_zero]
        exact ⟨_, rfl⟩
      exact .inr ⟨a, as, rest, rfl, hr⟩

theorem Elitism.select_nil_or_head (c : Cfg α) (s : ElState α) (picks : List Nat) :
    Elitism.select c s picks = [] ∨ (Elitism.select c s picks).head? = s.inds.head? := by
  rcases Elitism.select_cases c s picks with ⟨_, h⟩ | ⟨a, as, rest, hi, h⟩
  · exact .inl h
  · exact .inr (by rw [h, hi]; rfl)

theorem Elitism.select_head? (c : Cfg α) (s : ElState α) (picks : List Nat) (hsel : 1 ≤ c.selSize) :
    (Elitism.select c s picks).head? = s.inds.head? := by
  rcases Elitism.select_cases c s picks with ⟨hi | h0, h⟩ | ⟨a, as, rest, hi, h⟩
  · rw [h, hi]
  · exact absurd (selectionSize_pos c s hsel) (h0 ▸ Nat.not_succ_le_zero 0)
  · rw [h, hi]; rfl

theorem Elitism.select_ne_nil (c : Cfg α) (s : ElState α) (picks : List Nat) (hsel : 1 ≤ c.selSize)
    (hne : s.inds ≠ []) : Elitism.select c s picks ≠ [] := by
  rcases Elitism.select_cases c s picks with ⟨hi | h0, _⟩ | ⟨a, as, rest, _, h⟩
  · exact absurd hi hne
  · exact absurd (selectionSize_pos c s hsel) (h0 ▸ Nat.not_succ_le_zero 0)
  · exact h ▸ List.cons_ne_nil a rest

section
variable [DecidableEq α]

/-- no assumption on `fitEq` is needed for the invariant, only for the return values (`elitism_meets`) -/
theorem elitism_keeps {c : Cfg α} (hp : TotalPreorder c.le) (hcap : 0 < c.cap) :
    (elitismM c).Keeps (elitismSpec c) (fun offered s => EInv c offered s.inds) where
  add x h := h.addAll hp hcap [x]
  addAll xs h := h.addAll hp hcap xs
  onGen _ h := h
  state _ _ h := stateOK_intro h.sub h.best h.sorted rfl h.len

theorem elitism_meets {c : Cfg α} (hp : TotalPreorder c.le) (hcap : 0 < c.cap)
    (hfit : ∀ a b, c.fitEq a b = (c.le a b && c.le b a)) :
    (elitismM c).Meets (elitismSpec c) (fun offered s => EInv c offered s.inds) (fun _ _ => True) where
  toKeeps := elitism_keeps hp hcap
  ret_add s x := addAll_ret_improved hp hcap hfit s [x]
  ret_addAll := addAll_ret_improved hp hcap hfit
  gen_ranked _ _ := rfl
  phase _ _ := Nat.le_refl _
  select := @fun _ s t h _ =>
    selOK_intro (fun x hx => h.sub x (Elitism.select_mem c s _ hx)) (fun _ _ hx => Elitism.select_mem c s _ hx)
      (fun h0 hpos => Elitism.select_ne_nil c s _ (of_decide_eq_true hpos) (List.ne_nil_of_length_pos h0))
      (fun _ => Elitism.select_nil_or_head c s t.picks)

end

end C08
