import VrpModel.C06Multi
import VrpProofs.C06
import VrpProofs.C06Cap
import VrpProofs.C06CapVec
import VrpProofs.C06Complete
/-!
# C06 — soundness of a sequence of accepted insertions (multi-task jobs: pickup and delivery)

`eval_multi` inserts the sub-jobs of a multi-task job one after another into a shadow copy of the tour and evaluates
each sub-job on the copy that already holds the previous ones. Proved here: if every step is accepted by the model of
the evaluator (`C06.evalActivity`) on the running context, the final tour is feasible for the SPEC (`C06.baseFeasible`:
step-by-step time simulation + full load profile).
-/
namespace C06Multi
open Route C06 C06Cap C06Complete

theorem insertCtx_cap (c : Ctx) (s : Step) : (insertCtx c s).cap = c.cap := rfl
theorem insertCtx_zero (c : Ctx) (s : Step) : (insertCtx c s).zero = c.zero := rfl
theorem insertCtx_veh (c : Ctx) (s : Step) : (insertCtx c s).veh = c.veh := rfl
theorem insertCtx_m (c : Ctx) (s : Step) : (insertCtx c s).m = c.m := rfl

theorem insertCtx_tour (c : Ctx) (s : Step) :
    (insertCtx c s).tour = insertAt c.tour s.i { act := s.x, dem := s.dem } := rfl

theorem insertCtx_acts (c : Ctx) (s : Step) : (insertCtx c s).acts = insertAt c.acts s.i s.x := by
  unfold Ctx.acts
  rw [insertCtx_tour, map_insertAt]

theorem insertCtx_dems (c : Ctx) (s : Step) :
    (insertCtx c s).dems = insertAt c.dems s.i (demOr c.zero s.dem) := by
  unfold Ctx.dems
  rw [insertCtx_tour, insertCtx_zero, map_insertAt]

theorem capViolationAt_sound (c : Ctx) (n : Nat) (hcap : c.cap.length = n) (hwf : ∀ x ∈ c.dems, WF n x)
    (d : Dem) (hwd : WF n d) (i : Nat) (hi : i ≤ c.tour.length)
    (hok : capOk c.cap c.dems = true) (h : capViolationAt c i (some d) true = none) :
    capOk c.cap (insertAt c.dems i d) = true := by
  have hiA : i ≤ c.allDems.length := by rw [allDems_length]; exact Nat.le_trans hi (Nat.le_add_right _ _)
  rw [← capOk_insertAt_allDems c n hcap hwf d hwd i (dems_length c ▸ hi)]
  exact cap_sound_vec n c.cap c.allDems i d true hcap (wf_allDems c n hcap hwf) hwd hiA
    ((capOk_allDems c n hcap hwf).trans hok) h

theorem capOk_insert_zero (c : Ctx) (n : Nat) (hcap : c.cap.length = n) (hwf : ∀ x ∈ c.dems, WF n x) (i : Nat)
    (hok : capOk c.cap c.dems = true) : capOk c.cap (insertAt c.dems i (demOr c.zero none)) = true := by
  rw [capOk_iff n c.cap hcap _ (wf_insertAt n c.dems i _ hwf (zero_wf c n hcap))]
  intro k hk
  rw [map_prD_insertAt, prD_zero]
  apply cap_sound_forall (pr k c.cap) (c.dems.map (prD k)) i ⟨0, 0, 0, 0⟩ ((capOk_iff n c.cap hcap c.dems hwf).mp hok k hk)
  refine ⟨fun h => absurd rfl h, fun h => absurd rfl h, fun h => absurd (by decide) h⟩

/-- **one accepted insertion keeps the tour feasible** (time and capacity, any number of dimensions, closed and open
    tours) -/
theorem evalActivity_sound (c : Ctx) (s : Step) (n : Nat)
    (hbase : baseFeasible c = true)
    (hcap : c.cap.length = n) (hwf : ∀ x ∈ c.dems, WF n x) (hwd : ∀ d, s.dem = some d → WF n d)
    (hi : s.i ≤ c.tour.length)
    (h : evalActivity c s.i s.x s.dem = .ok) :
    baseFeasible (insertCtx c s) = true := by
  unfold baseFeasible at hbase ⊢
  rw [Bool.and_eq_true] at hbase ⊢
  obtain ⟨htime, hcapok⟩ := hbase
  constructor
  · rw [insertCtx_acts, insertCtx_veh, insertCtx_m]
    exact evalTime_sound c.m.t c.veh c.acts s.i s.x (by simpa [Ctx.acts] using hi) htime
      ((evalActivity_ok_iff c s.i s.x s.dem).mp h).1
  · rw [insertCtx_dems, insertCtx_cap]
    have hc := ((evalActivity_ok_iff c s.i s.x s.dem).mp h).2
    cases hd : s.dem with
    | none => exact capOk_insert_zero c n hcap hwf s.i hcapok
    | some d =>
      rw [hd] at hc
      exact capViolationAt_sound c n hcap hwf d (hwd d hd) s.i hi hcapok hc

theorem demOr_wf (c : Ctx) (n : Nat) (hcap : c.cap.length = n) (o : Option Dem) (hwd : ∀ d, o = some d → WF n d) :
    WF n (demOr c.zero o) := by
  cases o with
  | none => exact zero_wf c n hcap
  | some d => exact hwd d rfl

theorem insertCtx_wf (c : Ctx) (s : Step) (n : Nat)
    (hcap : c.cap.length = n) (hwf : ∀ x ∈ c.dems, WF n x) (hwd : ∀ d, s.dem = some d → WF n d) :
    (insertCtx c s).cap.length = n ∧ ∀ x ∈ (insertCtx c s).dems, WF n x := by
  refine ⟨hcap, ?_⟩
  rw [insertCtx_dems]
  exact wf_insertAt n c.dems s.i _ hwf (demOr_wf c n hcap s.dem hwd)

theorem acceptedSeq_cons (c : Ctx) (s : Step) (r : List Step) :
    acceptedSeq c (s :: r) = true ↔
      evalActivity c s.i s.x s.dem = .ok ∧ s.i ≤ c.tour.length ∧ acceptedSeq (insertCtx c s) r = true := by
  rw [acceptedSeq, Bool.and_eq_true, Bool.and_eq_true, decide_eq_true_eq, and_assoc]
  cases evalActivity c s.i s.x s.dem <;> simp

/-- **C06 soundness for a sequence of insertions (`eval_multi`)**: if every step is accepted by the evaluator on the
    tour that already holds the previous steps, the final tour is feasible for the step-by-step simulation -/
theorem acceptedSeq_sound (n : Nat) (steps : List Step) : ∀ (c : Ctx),
    baseFeasible c = true → c.cap.length = n → (∀ x ∈ c.dems, WF n x) →
    (∀ s ∈ steps, ∀ d, s.dem = some d → WF n d) →
    acceptedSeq c steps = true → baseFeasible (applySeq c steps) = true := by
  induction steps with
  | nil => intro c hbase _ _ _ _; exact hbase
  | cons s r ih =>
    intro c hbase hcap hwf hsteps hacc
    obtain ⟨hok, hi, hrest⟩ := (acceptedSeq_cons c s r).mp hacc
    have hwd := hsteps s (List.mem_cons_self ..)
    obtain ⟨hcap', hwf'⟩ := insertCtx_wf c s n hcap hwf hwd
    rw [applySeq]
    exact ih (insertCtx c s) (evalActivity_sound c s n hbase hcap hwf hwd hi hok) hcap' hwf'
      (fun s' hs' => hsteps s' (List.mem_cons_of_mem _ hs')) hrest

theorem stepWF_spec (n : Nat) (s : Step) (h : stepWF n s = true) : ∀ d, s.dem = some d → WF n d := by
  intro d hd
  unfold stepWF at h
  rw [hd] at h
  exact (demWF_iff n d).mp h

/-- **the same with hypotheses a driver can evaluate**: on every case where the Boolean `seqWF` is true -/
theorem acceptedSeq_sound_hyps (c : Ctx) (steps : List Step)
    (hbase : baseFeasible c = true) (hwf : seqWF c steps = true) (hacc : acceptedSeq c steps = true) :
    baseFeasible (applySeq c steps) = true := by
  unfold seqWF at hwf
  rw [Bool.and_eq_true] at hwf
  exact acceptedSeq_sound c.cap.length steps c hbase rfl
    (fun x hx => (demWF_iff _ _).mp (List.all_eq_true.mp hwf.1 x hx))
    (fun s hs => stepWF_spec _ s (List.all_eq_true.mp hwf.2 s hs)) hacc

theorem insertAt_length {α : Type} (l : List α) (i : Nat) (x : α) (hi : i ≤ l.length) :
    (insertAt l i x).length = l.length + 1 := by
  rw [insertAt, List.length_append, List.length_cons, List.length_take_of_le hi, List.length_drop]
  omega

theorem insertCtx_length (c : Ctx) (s : Step) (hi : s.i ≤ c.tour.length) :
    (insertCtx c s).tour.length = c.tour.length + 1 := insertAt_length _ _ _ hi

theorem insertAt_getElem?_self {α : Type} (l : List α) (i : Nat) (x : α) (hi : i ≤ l.length) :
    (insertAt l i x)[i]? = some x := by
  have hl := List.length_take_of_le hi
  rw [insertAt, List.getElem?_append_right (Nat.le_of_eq hl), hl, Nat.sub_self, List.getElem?_cons_zero]

theorem insertAt_getElem?_lt {α : Type} (l : List α) (i k : Nat) (x : α) (hk : k < i) (hi : i ≤ l.length) :
    (insertAt l i x)[k]? = l[k]? := by
  rw [insertAt, List.getElem?_append_left (by rw [List.length_take_of_le hi]; exact hk), List.getElem?_take_of_lt hk]

theorem pdSteps_wf (c : Ctx) (q : List Int) (i j : Nat) (xp xd : Act) (hq : q.length = c.cap.length) :
    ∀ s ∈ pdSteps c q i j xp xd, ∀ d, s.dem = some d → WF c.cap.length d := by
  have hz : c.zero.length = c.cap.length := by simp [Ctx.zero]
  intro s hs d hd
  simp only [pdSteps, List.mem_cons, List.mem_nil_iff, or_false] at hs
  rcases hs with rfl | rfl
  · cases hd; exact ⟨hz, hq, hz, hz⟩
  · cases hd; exact ⟨hz, hz, hz, hq⟩

/-- **pickup and delivery**: the pickup of `q` is accepted at leg `i`, then the delivery of `q` is accepted at a later leg
    `j` of the tour that already holds the pickup ⇒ the final tour is feasible for the simulation, it holds the two new
    activities, and the pickup (position `i`) precedes the delivery (position `j`) -/
theorem pickup_delivery_sound (c : Ctx) (q : List Int) (i j : Nat) (xp xd : Act)
    (hbase : baseFeasible c = true) (hwf : ∀ x ∈ c.dems, WF c.cap.length x) (hq : q.length = c.cap.length)
    (hij : i < j)
    (hacc : acceptedSeq c (pdSteps c q i j xp xd) = true) :
    baseFeasible (applySeq c (pdSteps c q i j xp xd)) = true ∧
    (applySeq c (pdSteps c q i j xp xd)).tour.length = c.tour.length + 2 ∧
    (applySeq c (pdSteps c q i j xp xd)).acts[i]? = some xp ∧
    (applySeq c (pdSteps c q i j xp xd)).acts[j]? = some xd := by
  refine ⟨acceptedSeq_sound c.cap.length _ c hbase rfl hwf (pdSteps_wf c q i j xp xd hq) hacc, ?_⟩
  unfold pdSteps at hacc ⊢
  obtain ⟨_, hi, hrest⟩ := (acceptedSeq_cons _ _ _).mp hacc
  obtain ⟨_, hj, _⟩ := (acceptedSeq_cons _ _ _).mp hrest
  simp only [applySeq]
  have hi' : i ≤ c.acts.length := by rw [acts_length]; exact hi
  have hj' : j ≤ (insertAt c.acts i xp).length := by
    rw [← insertCtx_acts c ⟨i, xp, _⟩, acts_length]; exact hj
  refine ⟨?_, ?_, ?_⟩
  · rw [insertCtx_length _ _ hj, insertCtx_length c _ hi]
  · rw [insertCtx_acts, insertCtx_acts]
    exact (insertAt_getElem?_lt _ _ _ _ hij hj').trans (insertAt_getElem?_self _ _ _ hi')
  · rw [insertCtx_acts, insertCtx_acts]
    exact insertAt_getElem?_self _ _ _ hj'

/-! ### non-vacuity: two capacity dimensions, closed tour

Matrix: three locations, 5 apart. Tour (shift end 100, capacity `[10, 5]`): one activity A at location 1 with a static
pickup `[4, 1]` (load `[0,0]` at departure, `[4,1]` after A). -/

def exM : Mat := { n := 3, dur := [0, 5, 5, 5, 0, 5, 5, 5, 0], dist := [0, 5, 5, 5, 0, 5, 5, 5, 0] }
def exC : Ctx :=
  { m := exM, veh := { startLoc := 0, earliest := 0, dep := 0, endAt := some (0, 100) }, cap := [10, 5],
    costs := ⟨0, 1, 1⟩, obj := .distance,
    tour := [⟨{ loc := 1, s := 0, e := 50, dur := 2 }, some ⟨[4, 1], [0, 0], [0, 0], [0, 0]⟩⟩] }

def exP : Act := { loc := 2, s := 0, e := 50, dur := 1 }
def exD : Act := { loc := 1, s := 0, e := 60, dur := 1 }

instance (n : Nat) (d : Dem) : Decidable (WF n d) := by unfold WF; infer_instance

-- accepted: pickup of `[5,3]` before A (loads `[5,3] [9,4]`), delivery after A (`[4,1]`); the simulation agrees
example : baseFeasible exC = true ∧ seqWF exC (pdSteps exC [5, 3] 0 2 exP exD) = true ∧
    acceptedSeq exC (pdSteps exC [5, 3] 0 2 exP exD) = true ∧
    baseFeasible (applySeq exC (pdSteps exC [5, 3] 0 2 exP exD)) = true := by decide +kernel
example : loadProfile exC.zero (applySeq exC (pdSteps exC [5, 3] 0 2 exP exD)).dems = [[0, 0], [5, 3], [9, 4], [4, 1]] := by
  decide +kernel
-- all hypotheses of the theorems hold on this case: they are not vacuous
example : baseFeasible (applySeq exC (pdSteps exC [5, 3] 0 2 exP exD)) = true :=
  acceptedSeq_sound_hyps exC _ (by decide) (by decide) (by decide)
example : (applySeq exC (pdSteps exC [5, 3] 0 2 exP exD)).acts = [exP, ⟨1, 0, 50, 2⟩, exD] := by decide +kernel
example := pickup_delivery_sound exC [5, 3] 0 2 exP exD (by decide) (by decide) (by decide) (by decide) (by decide)

-- capacity is exercised on the running context: a pickup of `[7,3]` is refused at both legs (`[11,4]` after A)
example : (List.range 2).all (fun i => !acceptedSeq exC [⟨i, exP, some ⟨[0, 0], [7, 3], [0, 0], [0, 0]⟩⟩]) = true := by decide +kernel
-- … and a second pickup of `[5,3]` is refused everywhere on the tour that already holds the first one (evaluated on the
-- original tour it would have been accepted again: the running context matters)
example : acceptedSeq exC [⟨0, exP, some ⟨[0, 0], [5, 3], [0, 0], [0, 0]⟩⟩] = true ∧
    (List.range 3).all (fun j => !acceptedSeq exC
      [⟨0, exP, some ⟨[0, 0], [5, 3], [0, 0], [0, 0]⟩⟩, ⟨j, exP, some ⟨[0, 0], [5, 3], [0, 0], [0, 0]⟩⟩]) = true := by decide +kernel

/-! ### the pickup is accepted, no later leg accepts the delivery: the sequence is refused

Pickup with service 3 (departure 8); the delivery window `[0, 12]` at location 1 is reachable on the ORIGINAL tour (arrival 5
at leg 0), but not after the pickup (arrival 13 at leg 1, later at leg 2). -/

def exP' : Act := { loc := 2, s := 0, e := 50, dur := 3 }
def exD' : Act := { loc := 1, s := 0, e := 12, dur := 1 }

example :
    acceptedSeq exC ((pdSteps exC [5, 3] 0 1 exP' exD').take 1) = true ∧
    -- the delivery alone would be accepted on the original tour
    acceptedSeq exC [⟨0, exD', some ⟨[0, 0], [0, 0], [0, 0], [5, 3]⟩⟩] = true ∧
    -- no later leg of the running tour (legs 1, 2; 3 and 4 are not legs) accepts the delivery
    (List.range 4).all (fun k => !acceptedSeq exC (pdSteps exC [5, 3] 0 (k + 1) exP' exD')) = true ∧
    -- and the simulation agrees: every later position of the delivery is infeasible
    (List.range 2).all (fun k => !baseFeasible (applySeq exC (pdSteps exC [5, 3] 0 (k + 1) exP' exD'))) = true := by decide +kernel

/-! ### what the evaluator does NOT check

* `s.i ≤ c.tour.length` is needed: beyond the last leg of a CLOSED tour the evaluator sees no next activity and treats the
  insertion as the end of an open tour — the arrival activity is not checked. (`evalJob` only offers `i < legCount`.)
* The order "pickup before delivery" is not a property of `evalActivity`: a delivery placed BEFORE its pickup is accepted
  (the load goes negative, nothing bounds it from below); `eval_multi` excludes it by starting the scan of the next
  sub-job at `next_index = index + 1`. Hence `hij : i < j` in `pickup_delivery_sound` is a hypothesis on the scan. -/

def exC0 : Ctx :=
  { m := exM, veh := { startLoc := 0, earliest := 0, dep := 0, endAt := some (0, 12) }, cap := [10, 5],
    costs := ⟨0, 1, 1⟩, obj := .distance, tour := [] }

-- leg 1 of an empty closed tour does not exist; the model of `evaluate_activity` accepts, the result is infeasible
-- (arrival at the end: 5 + 10 + 5 = 20 > 12); at the only leg 0 the same activity is refused
example : baseFeasible exC0 = true ∧
    evalActivity exC0 1 ⟨1, 0, 100, 10⟩ none = .ok ∧
    baseFeasible (insertCtx exC0 ⟨1, ⟨1, 0, 100, 10⟩, none⟩) = false ∧
    evalActivity exC0 0 ⟨1, 0, 100, 10⟩ none ≠ .ok := by decide +kernel

-- delivery before its pickup: accepted step by step, "feasible" for the load profile (which has no lower bound)
example : acceptedSeq exC (pdSteps exC [5, 3] 1 0 exP exD) = true ∧
    loadProfile exC.zero (applySeq exC (pdSteps exC [5, 3] 1 0 exP exD)).dems = [[0, 0], [-5, -3], [-1, -2], [4, 1]] := by
  decide +kernel

end C06Multi
