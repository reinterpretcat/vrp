import VrpProofs.C16.Spec
import VrpProofs.C16.Provider
import VrpProofs.C16.Reader
import VrpProofs.C16.Accepts
/-!
# C16 — routing-cost providers return exactly the supplied data

Model `VrpModel/C16.lean`; numbers are exact (`Int` entries and timestamps, `Rat` query times, scales and results), `f64`
rounding is outside the model. The labels S12a, S28, S28u, D1–D3 are explained in DESIGN.md §6.
Hypotheses: `from, to < n` (S12a: for `to ≥ n` the flat index lands in another row, `index_boundary_witness`); in
`reader_maps_by_name`, every matrix name is a fleet profile (S28u: a set in which no name is one is mapped by position,
`reader_all_unknown_is_positional`; mixes are rejected, `mixed_known_names_rejected_noMix`).
Square matrices (D1) and pairwise different `u64` keys within a profile (D2) follow from `build ms = .ok pr` (`build_ok`).
No theorem speaks of `validateRouting`, `hasDuplicates`, `collectPoints`, `euclidRounded`, `Provider.durationApprox`,
`Provider.distanceApprox`: the driver of the correspondence check runs them.
-/

namespace C16

/-! ## flat index -/

set_option linter.unusedVariables false in
/-- partial: `to ≥ n` is excluded (S12a, witness below) -/
theorem index_in_range_partial (n frm dst frm' dst' : Nat) (hf : frm < n) (ht : dst < n) (hf' : frm' < n) (ht' : dst' < n) :
    flatIdx n frm dst < n * n ∧ (flatIdx n frm dst = flatIdx n frm' dst' → frm = frm' ∧ dst = dst') :=
  ⟨flatIdx_lt n frm dst hf ht, flatIdx_inj n frm dst frm' dst' ht ht'⟩

/-- S12a: with `n = 2` the pair `(0, 2)` addresses the entry of `(1, 0)` -/
theorem index_boundary_witness : flatIdx 2 0 2 = flatIdx 2 1 0 ∧ flatIdx 2 0 2 < 2 * 2 := by decide

example : flatIdx 3 1 2 < 3 * 3 ∧ (flatIdx 3 1 2 = flatIdx 3 2 1 → False) := by decide

/-! ## time-agnostic routing -/

/-- an accepted untimed set answers `(profile, from, to)`, at any time and with any fallback, with the entry of the
    matrix carrying the profile index: the duration times the vehicle's scale, the distance as supplied -/
theorem agnostic_returns_entry (ms : List MatrixData) (pr : Provider) (hb : build ms = .ok pr)
    (hunt : ∀ m ∈ ms, m.timestamp = none)
    (m : MatrixData) (hm : m ∈ ms) (p : Profile) (hp : p.index = m.index)
    (frm dst : Nat) (hf : frm < pr.size) (hd : dst < pr.size) (t : Rat) (fb : Fallback) :
    m.durations.length = pr.size * pr.size ∧ m.distances.length = pr.size * pr.size ∧
    ∃ du di, entryDur m pr.size frm dst = some du ∧ entryDist m pr.size frm dst = some di ∧
      pr.duration fb p frm dst t = some ((du : Rat) * p.scale) ∧ pr.distance fb p frm dst t = some (di : Rat) := by
  obtain ⟨_, hlen, hsq, _⟩ := build_ok ms pr hb
  obtain ⟨hpr, hrange⟩ := build_untimed ms pr hb hunt
  have hdist : m.distances.length = pr.size * pr.size := (hlen m hm).trans (hsq m hm)
  obtain ⟨du, di, hdu, hdi, e1, e2⟩ := entries_exist m pr.size (hsq m hm) hdist frm dst hf hd
  have hpos := agnostic_position ms hrange m hm
  rw [← hp] at hpos
  obtain ⟨h1, h2⟩ := agnostic_unfold pr.size (sortByIndex ms) fb p frm dst t m hpos
  rw [e1] at h1
  rw [e2] at h2
  refine ⟨hsq m hm, hdist, du, di, hdu, hdi, ?_⟩
  rw [hpr]
  exact ⟨h1, h2⟩

/-- the vehicle's scale multiplies the duration and nothing else; all providers, all inputs -/
theorem scale_only_on_duration (pr : Provider) (fb : Fallback) (i : Nat) (s : Rat) (frm dst : Nat) (t : Rat) :
    pr.duration fb ⟨i, s⟩ frm dst t = (pr.duration fb ⟨i, 1⟩ frm dst t).map (· * s) ∧
    pr.distance fb ⟨i, s⟩ frm dst t = pr.distance fb ⟨i, 1⟩ frm dst t := by
  have hmap : ∀ o : Option Rat, o.map (· * s) = (o.map (· * 1)).map (· * s) := fun o => by
    cases o <;> simp only [Option.map_none, Option.map_some, mul_one]
  cases pr with
  | agnostic size mats =>
    rw [Provider.duration, Provider.duration, Provider.distance, Provider.distance]
    cases mats[i]? with
    | none => exact ⟨rfl, rfl⟩
    | some m => exact ⟨hmap _, rfl⟩
  | aware size ms =>
    rw [Provider.duration, Provider.duration, Provider.distance, Provider.distance]
    cases groupOf ms i with
    | nil => exact ⟨rfl, rfl⟩
    | cons x g => exact ⟨hmap _, rfl⟩

theorem same_for_all_vehicles_of_profile (pr : Provider) (fb : Fallback) (p q : Profile) (hpq : p.index = q.index)
    (frm dst : Nat) (t : Rat) :
    pr.distance fb p frm dst t = pr.distance fb q frm dst t ∧
    (pr.duration fb p frm dst t).map (· * q.scale) = (pr.duration fb q frm dst t).map (· * p.scale) := by
  obtain ⟨pi, ps⟩ := p
  obtain ⟨qi, qs⟩ := q
  simp only at hpq
  subst hpq
  obtain ⟨h1, h2⟩ := scale_only_on_duration pr fb pi ps frm dst t
  obtain ⟨h3, h4⟩ := scale_only_on_duration pr fb pi qs frm dst t
  refine ⟨by rw [h2, h4], ?_⟩
  rw [h1, h3]
  cases pr.duration fb ⟨pi, 1⟩ frm dst t with
  | none => rfl
  | some x => simp only [Option.map_some]; congr 1; ring

/-! ## time-aware routing -/

/-- the setting of the time-aware theorems: an accepted set with timestamps, `n × n` matrices, and pairwise different
    `u64` keys among the matrices supplied for the vehicle's profile. The last two follow from the first two with
    `n = pr.size` (`awareCtx_of_build` below): the theorems hold for every accepted timed set. -/
structure AwareCtx (ms : List MatrixData) (pr : Provider) (n : Nat) (p : Profile) : Prop where
  built : build ms = .ok pr
  timed : ∃ m ∈ ms, m.timestamp.isSome = true
  square : ∀ m ∈ ms, m.durations.length = n * n
  distinct : DistinctKeys (supplied ms p.index)

theorem awareCtx_of_build (ms : List MatrixData) (pr : Provider) (hb : build ms = .ok pr)
    (ht : ∃ m ∈ ms, m.timestamp.isSome = true) (p : Profile) : AwareCtx ms pr pr.size p :=
  ⟨hb, ht, (build_ok ms pr hb).2.2.1, (build_timed ms pr hb ht).2.2.2 p.index⟩

theorem AwareCtx.provider {ms pr n p} (c : AwareCtx ms pr n p) : pr = .aware n ms := by
  have := (build_timed ms pr c.built c.timed).1
  rw [build_size ms pr c.built n c.square] at this
  exact this

theorem AwareCtx.entries {ms pr n p} (c : AwareCtx ms pr n p) (m : MatrixData) (hm : m ∈ supplied ms p.index)
    (frm dst : Nat) (hf : frm < n) (hd : dst < n) :
    ∃ du di, entryDur m n frm dst = some du ∧ entryDist m n frm dst = some di ∧
      durAt m (flatIdx n frm dst) = some (du : Rat) ∧ distAt m (flatIdx n frm dst) = some (di : Rat) := by
  have hmm : m ∈ ms := (List.mem_filter.mp hm).1
  exact entries_exist m n (c.square m hmm) (((build_ok ms pr c.built).2.1 m hmm).trans (c.square m hmm)) frm dst hf hd

theorem AwareCtx.answer {ms pr n p} (c : AwareCtx ms pr n p) (hne : supplied ms p.index ≠ []) (fb : Fallback)
    (frm dst : Nat) (t : Rat) {x y : Rat}
    (hx : interpDurationRaw (sortByKey (supplied ms p.index)) (flatIdx n frm dst) t = some x)
    (hy : interpDistanceRaw (sortByKey (supplied ms p.index)) (flatIdx n frm dst) t = some y) :
    pr.duration fb p frm dst t = some (x * p.scale) ∧ pr.distance fb p frm dst t = some y := by
  obtain ⟨h1, h2⟩ := aware_unfold n ms fb p frm dst t hne
  rw [c.provider, h1, h2]
  exact ⟨by rw [groupOf_eq_supplied, hx]; rfl, by rw [groupOf_eq_supplied, hy]; rfl⟩

/-- the query time need only have the `u64` key of the matrix; in particular it may be the matrix timestamp itself -/
theorem aware_at_timestamp {ms pr n p} (c : AwareCtx ms pr n p) (m : MatrixData) (hm : m ∈ supplied ms p.index)
    (t : Rat) (hk : m.key = keyOfRat t) (frm dst : Nat) (hf : frm < n) (hd : dst < n) (fb : Fallback) :
    ∃ du di, entryDur m n frm dst = some du ∧ entryDist m n frm dst = some di ∧
      pr.duration fb p frm dst t = some ((du : Rat) * p.scale) ∧ pr.distance fb p frm dst t = some (di : Rat) := by
  obtain ⟨du, di, hdu, hdi, e1, e2⟩ := c.entries m hm frm dst hf hd
  obtain ⟨s1, s2⟩ := select_exact _ c.distinct t m hm hk (flatIdx n frm dst)
  exact ⟨du, di, hdu, hdi, c.answer (List.ne_nil_of_mem hm) fb frm dst t (s1.trans e1) (s2.trans e2)⟩

theorem aware_at_matrix_timestamp {ms pr n p} (c : AwareCtx ms pr n p) (m : MatrixData) (hm : m ∈ supplied ms p.index)
    (ts : Int) (hts : m.timestamp = some ts) (frm dst : Nat) (hf : frm < n) (hd : dst < n) (fb : Fallback) :
    ∃ du di, entryDur m n frm dst = some du ∧ entryDist m n frm dst = some di ∧
      pr.duration fb p frm dst (ts : Rat) = some ((du : Rat) * p.scale) ∧
      pr.distance fb p frm dst (ts : Rat) = some (di : Rat) :=
  aware_at_timestamp c m hm ts (by rw [keyOfRat_intCast, MatrixData.key, hts]; rfl) frm dst hf hd fb

theorem aware_outside_span {ms pr n p} (c : AwareCtx ms pr n p) (e : MatrixData) (he : e ∈ supplied ms p.index)
    (t : Rat)
    (hout : (∀ x ∈ supplied ms p.index, keyOfRat t < x.key ∧ e.key ≤ x.key) ∨
            (∀ x ∈ supplied ms p.index, x.key < keyOfRat t ∧ x.key ≤ e.key))
    (frm dst : Nat) (hf : frm < n) (hd : dst < n) (fb : Fallback) :
    ∃ du di, entryDur e n frm dst = some du ∧ entryDist e n frm dst = some di ∧
      pr.duration fb p frm dst t = some ((du : Rat) * p.scale) ∧ pr.distance fb p frm dst t = some (di : Rat) := by
  obtain ⟨du, di, hdu, hdi, e1, e2⟩ := c.entries e he frm dst hf hd
  obtain ⟨s1, s2⟩ : interpDurationRaw (sortByKey (supplied ms p.index)) (flatIdx n frm dst) t = durAt e (flatIdx n frm dst) ∧
      interpDistanceRaw (sortByKey (supplied ms p.index)) (flatIdx n frm dst) t = distAt e (flatIdx n frm dst) :=
    hout.elim (select_first _ c.distinct t e he · _) (select_last _ c.distinct t e he · _)
  exact ⟨du, di, hdu, hdi, c.answer (List.ne_nil_of_mem he) fb frm dst t (s1.trans e1) (s2.trans e2)⟩

/-- two supplied matrices with no other key between theirs -/
structure Bracket (g : List MatrixData) (l r : MatrixData) : Prop where
  left_mem : l ∈ g
  right_mem : r ∈ g
  adjacent : ∀ x ∈ g, x.key ≤ l.key ∨ r.key ≤ x.key

theorem aware_between {ms pr n p} (c : AwareCtx ms pr n p) (l r : MatrixData) (hb : Bracket (supplied ms p.index) l r)
    (t : Rat) (hlk : l.key < keyOfRat t) (hkr : keyOfRat t < r.key)
    (frm dst : Nat) (hf : frm < n) (hd : dst < n) (fb : Fallback) :
    ∃ lv rv dl, entryDur l n frm dst = some lv ∧ entryDur r n frm dst = some rv ∧ entryDist l n frm dst = some dl ∧
      pr.duration fb p frm dst t =
        some (lineThrough (l.timestamp.getD 0 : Int) lv (r.timestamp.getD 0 : Int) rv t * p.scale) ∧
      pr.distance fb p frm dst t = some (dl : Rat) := by
  obtain ⟨lv, dl, hlv, hdl, e1, e2⟩ := c.entries l hb.left_mem frm dst hf hd
  obtain ⟨rv, _, hrv, _, e3, _⟩ := c.entries r hb.right_mem frm dst hf hd
  obtain ⟨s1, s2⟩ := select_between _ c.distinct t l r hb.left_mem hb.right_mem hlk hkr hb.adjacent (flatIdx n frm dst)
  rw [e1, e3] at s1
  exact ⟨lv, rv, dl, hlv, hrv, hdl, c.answer (List.ne_nil_of_mem hb.left_mem) fb frm dst t s1 (s2.trans e2)⟩

theorem aware_distance_left {ms pr n p} (c : AwareCtx ms pr n p) (l r : MatrixData) (hb : Bracket (supplied ms p.index) l r)
    (t : Rat) (hlk : l.key < keyOfRat t) (hkr : keyOfRat t < r.key)
    (frm dst : Nat) (hf : frm < n) (hd : dst < n) (fb : Fallback) :
    ∃ dl, entryDist l n frm dst = some dl ∧ pr.distance fb p frm dst t = some (dl : Rat) := by
  obtain ⟨_, _, dl, _, _, hdl, _, h⟩ := aware_between c l r hb t hlk hkr frm dst hf hd fb
  exact ⟨dl, hdl, h⟩

theorem aware_between_in_hull {ms pr n p} (c : AwareCtx ms pr n p) (l r : MatrixData)
    (hb : Bracket (supplied ms p.index) l r)
    (t : Rat) (hlk : l.key < keyOfRat t) (hkr : keyOfRat t < r.key)
    (frm dst : Nat) (hf : frm < n) (hd : dst < n) (fb : Fallback) :
    ∃ lv rv v, entryDur l n frm dst = some lv ∧ entryDur r n frm dst = some rv ∧
      pr.duration fb p frm dst t = some (v * p.scale) ∧ min (lv : Rat) rv ≤ v ∧ v ≤ max (lv : Rat) rv := by
  obtain ⟨lv, rv, _, hlv, hrv, _, h, _⟩ := aware_between c l r hb t hlk hkr frm dst hf hd fb
  have h1 : ((l.timestamp.getD 0 : Int) : Rat) ≤ t := key_lt_query _ _ hlk
  have h2 : t < ((r.timestamp.getD 0 : Int) : Rat) := query_lt_key _ _ hkr
  obtain ⟨hlo, hhi⟩ := lineThrough_hull (l.timestamp.getD 0 : Int) (r.timestamp.getD 0 : Int) lv rv t
    (lt_of_le_of_lt h1 h2) h1 (le_of_lt h2)
  exact ⟨lv, rv, _, hlv, hrv, h, hlo, hhi⟩

/-- one slope and one offset for the whole open interval between the two matrices -/
theorem aware_duration_linear {ms pr n p} (c : AwareCtx ms pr n p) (l r : MatrixData)
    (hb : Bracket (supplied ms p.index) l r) (hlr : l.key < r.key)
    (frm dst : Nat) (hf : frm < n) (hd : dst < n) (fb : Fallback) :
    ∃ lv rv : Int, ∃ a b : Rat, entryDur l n frm dst = some lv ∧ entryDur r n frm dst = some rv ∧
      a * (l.timestamp.getD 0 : Int) + b = lv ∧ a * (r.timestamp.getD 0 : Int) + b = rv ∧
      ∀ t : Rat, l.key < keyOfRat t → keyOfRat t < r.key →
        pr.duration fb p frm dst t = some ((a * t + b) * p.scale) := by
  obtain ⟨lv, _, hlv, _, _, _⟩ := c.entries l hb.left_mem frm dst hf hd
  obtain ⟨rv, _, hrv, _, _, _⟩ := c.entries r hb.right_mem frm dst hf hd
  obtain ⟨a, b, ha, hb', haff⟩ := lineThrough_affine (l.timestamp.getD 0 : Int) (r.timestamp.getD 0 : Int) lv rv
    (key_ne_imp_ts_ne _ _ (show l.key ≠ r.key by omega))
  refine ⟨lv, rv, a, b, hlv, hrv, ha, hb', fun t h1 h2 => ?_⟩
  obtain ⟨lv', rv', _, hlv', hrv', _, h, _⟩ := aware_between c l r hb t h1 h2 frm dst hf hd fb
  rw [hlv] at hlv'; rw [hrv] at hrv'
  cases hlv'; cases hrv'
  rw [h, haff]

/-! ## the provider computes the executable specification -/

/-- `specDuration` / `specDistance` are the functions the oracle of the correspondence check evaluates on the
    implementation's answers; square matrices and pairwise different keys come with acceptance -/
theorem provider_eq_spec (ms : List MatrixData) (pr : Provider) (hb : build ms = .ok pr)
    (p : Profile) (hne : supplied ms p.index ≠ [])
    (frm dst : Nat) (hf : frm < pr.size) (hd : dst < pr.size) (t : Rat) (fb : Fallback) :
    pr.duration fb p frm dst t = specDuration ms pr.size p frm dst t ∧
    pr.distance fb p frm dst t = specDistance ms pr.size p frm dst t := by
  unfold specDuration specDistance
  by_cases ht : ∃ m ∈ ms, m.timestamp.isSome = true
  · have c : AwareCtx ms pr pr.size p := awareCtx_of_build ms pr hb ht p
    obtain ⟨_, hall, hlen, _⟩ := build_timed ms pr hb ht
    obtain ⟨m, hm⟩ := List.exists_mem_of_ne_nil _ hne
    have hmm := List.mem_filter.mp hm
    obtain ⟨g1, g2⟩ := specGroup_timed (supplied ms p.index)
      (by have := hlen m hmm.1; rwa [eq_of_beq hmm.2] at this)
      (List.all_eq_true.mpr fun x hx => hall x (List.mem_filter.mp hx).1) pr.size p.scale frm dst t
    obtain ⟨s1, s2, hsome⟩ := interp_eq_spec _ c.distinct hne pr.size frm dst t
    obtain ⟨⟨v1, hv1⟩, ⟨v2, hv2⟩⟩ := hsome fun m hm => by
      obtain ⟨du, di, h1, h2, _⟩ := c.entries m hm frm dst hf hd
      exact ⟨du, di, h1, h2⟩
    obtain ⟨h1, h2⟩ := c.answer hne fb frm dst t hv1 hv2
    rw [h1, h2, g1, g2, ← s1, ← s2, hv1, hv2]
    exact ⟨rfl, rfl⟩
  · have hunt : ∀ m ∈ ms, m.timestamp = none := fun m hm =>
      Option.not_isSome_iff_eq_none.mp fun e => ht ⟨m, hm, e⟩
    obtain ⟨_, hrange⟩ := build_untimed ms pr hb hunt
    obtain ⟨m, hmem⟩ := List.exists_mem_of_ne_nil _ hne
    obtain ⟨hm, hmi⟩ := List.mem_filter.mp hmem
    have hmi : m.index = p.index := eq_of_beq hmi
    have hsing := agnostic_supplied ms hrange m hm
    rw [hmi] at hsing
    obtain ⟨_, _, du, di, hdu, hdi, h1, h2⟩ :=
      agnostic_returns_entry ms pr hb hunt m hm p hmi.symm frm dst hf hd t fb
    rw [hsing, h1, h2]
    unfold specGroupDuration specGroupDistance
    simp only [hunt m hm, hdu, hdi, Option.isNone_none, if_true]
    exact ⟨rfl, rfl⟩

/-- the property in one statement -/
theorem well_formed_is_served (ms : List MatrixData) (n : Nat) (h : wellFormed ms n = true) :
    ∃ pr, build ms = .ok pr ∧ pr.size = n ∧
      ∀ (p : Profile), supplied ms p.index ≠ [] → ∀ frm dst, frm < n → dst < n → ∀ (t : Rat) (fb : Fallback),
        pr.duration fb p frm dst t = specDuration ms n p frm dst t ∧
        pr.distance fb p frm dst t = specDistance ms n p frm dst t := by
  obtain ⟨pr, hb, hsize⟩ := build_accepts_well_formed ms n h
  refine ⟨pr, hb, hsize, ?_⟩
  intro p hne frm dst hf hd t fb
  subst hsize
  exact provider_eq_spec ms pr hb p hne frm dst hf hd t fb

/-! ## the builder rejects inconsistent sets -/

/-- (1) no matrix; (2) distances and durations of different length; (3) two square matrices of different dimension;
    (4) timed and untimed matrices mixed; (5) a profile twice in an untimed set; (6) a missing profile in an untimed
    set; (7) a profile with a single timed matrix; (8) a number of entries that is not a square (repair 0684041);
    (9) two matrices of one profile with the same timestamp (repair c805ac8) -/
theorem builder_rejects_inconsistent_classes (ms : List MatrixData) :
    (ms = [] → ∀ pr, build ms ≠ .ok pr) ∧
    ((∃ m ∈ ms, m.distances.length ≠ m.durations.length) → ∀ pr, build ms ≠ .ok pr) ∧
    ((∃ a ∈ ms, ∃ b ∈ ms, ∃ na nb, a.durations.length = na * na ∧ b.durations.length = nb * nb ∧ na ≠ nb) →
      ∀ pr, build ms ≠ .ok pr) ∧
    ((∃ a ∈ ms, ∃ b ∈ ms, a.timestamp.isSome = true ∧ b.timestamp = none) → ∀ pr, build ms ≠ .ok pr) ∧
    ((∀ m ∈ ms, m.timestamp = none) → (∃ p, 2 ≤ (supplied ms p).length) → ∀ pr, build ms ≠ .ok pr) ∧
    ((∀ m ∈ ms, m.timestamp = none) → (∃ p, p < ms.length ∧ supplied ms p = []) → ∀ pr, build ms ≠ .ok pr) ∧
    ((∃ a ∈ ms, a.timestamp.isSome = true ∧ (supplied ms a.index).length = 1) → ∀ pr, build ms ≠ .ok pr) ∧
    ((∃ m ∈ ms, ∀ k, m.durations.length ≠ k * k) → ∀ pr, build ms ≠ .ok pr) ∧
    ((∃ a ∈ ms, a.timestamp.isSome = true ∧
        ((supplied ms a.index).filter (fun x => x.timestamp == a.timestamp)).length ≠ 1) → ∀ pr, build ms ≠ .ok pr) := by
  refine ⟨?_, ?_, ?_, ?_, ?_, ?_, ?_, ?_, ?_⟩
  · rintro rfl pr hb; rw [builder_rejects_empty] at hb; cases hb
  · rintro ⟨m, hm, hne⟩ pr hb
    exact hne ((build_ok ms pr hb).2.1 m hm)
  · rintro ⟨a, ha, b, hb', na, nb, h1, h2, h3⟩ pr hb
    have hsz := (build_ok ms pr hb).2.2.1
    exact h3 (by rw [← Nat.sqrt_eq na, ← Nat.sqrt_eq nb, ← h1, ← h2, hsz a ha, hsz b hb'])
  · rintro ⟨a, ha, b, hb, h1, h2⟩
    exact builder_rejects_mixed_timestamps ms a b ha hb h1 h2
  · rintro hunt ⟨p, hp⟩ pr hb
    have := agnostic_supplied_le_one ms (build_untimed ms pr hb hunt).2 p
    omega
  · rintro hunt ⟨p, hp, hmiss⟩ pr hb
    exact agnostic_covers ms (build_untimed ms pr hb hunt).2 p hp hmiss
  · rintro ⟨a, ha, h1, h2⟩ pr hb
    exact (build_timed ms pr hb ⟨a, ha, h1⟩).2.2.1 a ha h2
  · rintro ⟨m, hm, h⟩ pr hb
    exact h pr.size ((build_ok ms pr hb).2.2.1 m hm)
  · rintro ⟨a, ha, h1, h2⟩
    exact builder_rejects_duplicate_timestamp ms a ha h1 h2

/-- `inconsistent` flags: no matrix, a matrix that is not `n × n` for the common `n`, timed and untimed mixed, the same
    (profile, timestamp) twice. It does not flag classes (6) and (7) above; `wellFormed` excludes them. -/
theorem builder_rejects_inconsistent (ms : List MatrixData) (hinc : inconsistent ms = true) :
    ∀ pr, build ms ≠ .ok pr := by
  intro pr hb
  obtain ⟨hne, hlen, hsz, hcase⟩ := build_ok ms pr hb
  cases ms with
  | nil => exact hne rfl
  | cons first rest =>
    unfold inconsistent at hinc
    simp only [Bool.or_eq_true, Bool.and_eq_true] at hinc
    have hn : Nat.sqrt first.durations.length = pr.size := by
      rw [hsz first List.mem_cons_self, Nat.sqrt_eq]
    rcases hinc with (hdimbad | hmixed) | hcount
    · obtain ⟨m, hm, hbad⟩ := List.any_eq_true.mp hdimbad
      -- both collections of every matrix have `size * size` entries
      rw [hn, hlen m hm, hsz m hm] at hbad
      simp at hbad
    · obtain ⟨⟨a, ha, hat⟩, ⟨b, hb', hbt⟩⟩ := And.intro (List.any_eq_true.mp hmixed.1) (List.any_eq_true.mp hmixed.2)
      exact builder_rejects_mixed_timestamps _ a b ha hb' hat (by simpa using hbt) pr hb
    · obtain ⟨m, hm, hbad⟩ := List.any_eq_true.mp hcount
      rcases hcase with ⟨hall, _⟩ | ⟨hunt, _, hrange⟩
      · exact builder_rejects_duplicate_timestamp _ m hm (hall m hm) (by simpa using hbad) pr hb
      · -- `m` is the only matrix of its profile, and has its own timestamp
        rw [agnostic_supplied _ hrange m hm] at hbad
        simp at hbad

/-- different negative timestamps share the `u64` key 0 (`as u64` saturates) — such sets are rejected as duplicates -/
theorem negative_timestamps_share_key : keyOfInt (-50) = keyOfInt (-60) ∧ keyOfInt (-50) = 0 := by decide

/-- a 5-entry matrix (2 × 2 under the rounded square root, D1), the same timestamp twice, and timestamps −50 and −60
    sharing the `u64` key 0 (D2) -/
theorem repaired_builder_rejects_former_witnesses :
    build [⟨0, none, [1, 2, 3, 4, 5], [1, 2, 3, 4, 5]⟩] = .error .notSquare ∧
    build [⟨0, some 5, [1], [1]⟩, ⟨0, some 5, [2], [2]⟩] = .error .duplicateTimestamp ∧
    (∀ pr, build [⟨0, some (-50), [1], [1]⟩, ⟨0, some (-60), [2], [2]⟩] ≠ .ok pr) := by
  have h5 : sqrtRound 5 = 2 := sqrtRound_add 2 1 (by omega)
  have h1 : sqrtRound 1 = 1 := sqrtRound_sq 1
  refine ⟨by simp [build, h5], ?_, fun pr hb => ?_⟩
  · have hg : groupOf [⟨0, some 5, [1], [1]⟩, ⟨0, some 5, [2], [2]⟩] 0 =
        [⟨0, some 5, [1], [1]⟩, ⟨0, some 5, [2], [2]⟩] := rfl
    have hs : sortByKey [⟨0, some 5, [1], [1]⟩, ⟨0, some 5, [2], [2]⟩] =
        [⟨0, some 5, [1], [1]⟩, ⟨0, some 5, [2], [2]⟩] := List.mergeSort_of_pairwise (by decide)
    unfold build newAware
    simp only [List.length_cons, List.length_nil, h1, List.any_cons, List.any_nil, hg, hs]
    rfl
  · exact absurd ((build_timed _ pr hb ⟨_, List.mem_cons_self, rfl⟩).2.2.2 0) (by unfold DistinctKeys; decide)

/-! ## the pragmatic reader -/

theorem toMatrixDataAll_mem (profiles : List String) (ms : List ApiMatrix) (k : Nat) (data : List MatrixData)
    (h : toMatrixDataAll profiles k ms = some data) : ∀ d ∈ data, ∃ m ∈ ms, ∃ idx, d = asSupplied idx m := by
  induction ms generalizing k data with
  | nil => cases h; exact fun _ hx => nomatch hx
  | cons m rest ih =>
    obtain ⟨d, ds, hd, hds, rfl⟩ := toMatrixDataAll_cons profiles k m rest data h
    rw [List.forall_mem_cons]
    exact ⟨⟨m, List.mem_cons_self, _, toMatrixData_spec profiles k m d hd⟩,
      fun x hx => (ih (k + 1) ds hds x hx).imp fun _ h => ⟨List.mem_cons_of_mem _ h.1, h.2⟩⟩

/-- a vehicle of profile `v.matrix` is routed on the matrices named `v.matrix` (unnamed matrices: the one at the profile's
    position), unreachable entries as −1. `hknown` is S28u.
    With any fallback (`create_transport_costs` installs `UnknownLocationFallback` when a custom location exists). -/
theorem reader_maps_by_name_fallback (mode : ReaderMode) (profiles : List String) (ms : List ApiMatrix) (pr : Provider)
    (h : createTransportCosts mode profiles ms = .ok pr) (hknown : namesKnown profiles ms = true)
    (v : ApiVehicle) (p : Profile) (hv : vehicleProfile profiles v = some p)
    (hne : namedFor profiles ms v.matrix ≠ [])
    (frm dst : Nat) (hf : frm < pr.size) (hd : dst < pr.size) (t : Rat) (fb : Fallback) :
    pr.duration fb p frm dst t = specReaderDuration profiles ms pr.size v frm dst t ∧
    pr.distance fb p frm dst t = specReaderDistance profiles ms pr.size v frm dst t := by
  obtain ⟨hall, _, _, data, hdata, hb⟩ := createTransportCosts_ok mode profiles ms pr h
  obtain ⟨i, hi, rfl⟩ := Option.map_eq_some_iff.mp hv
  have hsup := supplied_eq_namedFor profiles ms data hall hdata hknown v.matrix i hi
  obtain ⟨h1, h2⟩ := provider_eq_spec data pr hb ⟨i, v.scale.getD 1⟩ (by simp only; rw [hsup]; exact hne)
    frm dst hf hd t fb
  rw [h1, h2]
  unfold specDuration specDistance specReaderDuration specReaderDistance
  rw [hsup]
  exact ⟨rfl, rfl⟩

theorem reader_maps_by_name (mode : ReaderMode) (profiles : List String) (ms : List ApiMatrix) (pr : Provider)
    (h : createTransportCosts mode profiles ms = .ok pr) (hknown : namesKnown profiles ms = true)
    (v : ApiVehicle) (p : Profile) (hv : vehicleProfile profiles v = some p)
    (hne : namedFor profiles ms v.matrix ≠ [])
    (frm dst : Nat) (hf : frm < pr.size) (hd : dst < pr.size) (t : Rat) :
    pr.duration none p frm dst t = specReaderDuration profiles ms pr.size v frm dst t ∧
    pr.distance none p frm dst t = specReaderDistance profiles ms pr.size v frm dst t :=
  reader_maps_by_name_fallback mode profiles ms pr h hknown v p hv hne frm dst hf hd t none

/-- `noMix` is the reader of /repo (repair 83519b0) -/
theorem mixed_known_names_rejected_noMix (profiles : List String) (ms : List ApiMatrix)
    (h0 : knownCount profiles ms ≠ 0) (h1 : knownCount profiles ms ≠ ms.length) :
    ∀ pr, createTransportCosts .noMix profiles ms ≠ .ok pr := by
  intro pr hc
  rcases (createTransportCosts_ok _ profiles ms pr hc).2.2.1 rfl with h | h
  · exact h0 h
  · exact h1 h

/-- `ReaderMode.positional`, the reader /repo had before repair 83519b0 (`mutants/C16-q-revert-S28-name-mix.patch`):
    the `truck` vehicle is routed on the data of `bike` although no matrix is named `truck` -/
theorem reader_positional_witness :
    let car : ApiMatrix := ⟨some "car", none, [1, 1, 1, 1], [1, 1, 1, 1], none⟩
    let bike : ApiMatrix := ⟨some "bike", none, [100, 100, 100, 100], [100, 100, 100, 100], none⟩
    let profiles := ["car", "truck"]
    let truck : Profile := ⟨1, 1⟩
    namesKnown profiles [car, bike] = false ∧
    profileIndex profiles "truck" = some truck.index ∧
    namedFor profiles [car, bike] "truck" = [] ∧
    (∃ pr, createTransportCosts .positional profiles [car, bike] = .ok pr ∧
      pr.distance none truck 0 1 0 = some 100) ∧
    ∀ pr, createTransportCosts .noMix profiles [car, bike] ≠ .ok pr := by
  refine ⟨by decide, by decide, by decide, ?_, mixed_known_names_rejected_noMix _ _ (by decide) (by decide)⟩
  refine ⟨.agnostic 2 [⟨0, none, [1, 1, 1, 1], [1, 1, 1, 1]⟩, ⟨1, none, [100, 100, 100, 100], [100, 100, 100, 100]⟩],
    ?_, rfl⟩
  apply createTransportCosts_accepts _ _ _
    [⟨0, none, [1, 1, 1, 1], [1, 1, 1, 1]⟩, ⟨1, none, [100, 100, 100, 100], [100, 100, 100, 100]⟩] _
    (by decide) (by decide) (by decide) (by decide) rfl (by decide) (by decide)
  rw [build_well_formed_untimed _ 2 (by decide) (by decide), sortByIndex_of_sorted _ (by decide)]

/-- S28u, the behaviour `fleet_reader_test` (positive case01) of the repository documents: no matrix name is a fleet
    profile, the names are ignored and the matrices mapped by position -/
theorem reader_all_unknown_is_positional :
    let m : ApiMatrix := ⟨some "car1", none, [0, 3, 5, 0], [0, 30, 50, 0], none⟩
    namesKnown ["car"] [m] = false ∧ knownCount ["car"] [m] = 0 ∧
    ∃ pr, createTransportCosts .noMix ["car"] [m] = .ok pr ∧ pr.distance none ⟨0, 1⟩ 0 1 0 = some 30 := by
  refine ⟨by decide, by decide, .agnostic 2 [⟨0, none, [0, 3, 5, 0], [0, 30, 50, 0]⟩], ?_, rfl⟩
  apply createTransportCosts_accepts _ _ _ [⟨0, none, [0, 3, 5, 0], [0, 30, 50, 0]⟩] _
    (by decide) (by decide) (by decide) (by decide) rfl (by decide) (by decide)
  rw [build_well_formed_untimed _ 2 (by decide) (by decide), sortByIndex_of_sorted _ (by decide)]

/-- the rejected alternative `fixes/S28.patch` (`strict`): any name that is not a fleet profile is an error -/
theorem unknown_name_rejected_strict (profiles : List String) (ms : List ApiMatrix)
    (h : namesKnown profiles ms = false) : ∀ pr, createTransportCosts .strict profiles ms ≠ .ok pr := by
  intro pr hc
  rw [(createTransportCosts_ok _ profiles ms pr hc).2.1 rfl] at h
  cases h

theorem unreachable_is_negative (profiles : List String) (idx : Nat) (m : ApiMatrix) (d : MatrixData)
    (h : toMatrixData profiles idx m = some d) (codes : List Int) (hc : m.errorCodes = some codes)
    (i : Nat) (hi : i < codes.length) (hpos : codes.getD i 0 > 0) :
    d.durations[i]? = some (-1) ∧ d.distances[i]? = some (-1) ∧ ∀ scale : Rat, 0 < scale → ((-1 : Int) : Rat) * scale < 0 := by
  obtain ⟨h1, h2⟩ := asSupplied_getElem? ((m.profile.bind (profileIndex profiles)).getD idx) m codes hc i hi
  rw [if_pos hpos, ← toMatrixData_spec profiles idx m d h] at h1 h2
  refine ⟨h1, h2, fun scale hs => ?_⟩
  rw [Int.cast_neg, Int.cast_one, neg_one_mul]
  exact neg_neg_of_pos hs

theorem reachable_keeps_value (profiles : List String) (idx : Nat) (m : ApiMatrix) (d : MatrixData)
    (h : toMatrixData profiles idx m = some d) (codes : List Int) (hc : m.errorCodes = some codes)
    (i : Nat) (hi : i < codes.length) (hpos : ¬ codes.getD i 0 > 0) :
    d.durations[i]? = some (m.travelTimes.getD i 0) ∧ d.distances[i]? = some (m.distances.getD i 0) := by
  have h12 := asSupplied_getElem? ((m.profile.bind (profileIndex profiles)).getD idx) m codes hc i hi
  rwa [if_neg hpos, if_neg hpos, ← toMatrixData_spec profiles idx m d h] at h12

/-! ## `SimpleTransportCost` -/

theorem simple_returns_entry (dur dist : List Int) (n : Nat) (h1 : dur.length = n * n) (h2 : dist.length = n * n) :
    ∃ s, Simple.new dur dist = some s ∧ s.size = n ∧
      ∀ frm dst, frm < n → dst < n →
        dur[frm * n + dst]? = some (s.duration frm dst) ∧ dist[frm * n + dst]? = some (s.distance frm dst) := by
  refine ⟨⟨dur, dist, n⟩, ?_, rfl, ?_⟩
  · unfold Simple.new
    simp [h1, h2, sqrtRound_sq]
  · intro frm dst hf hd
    obtain ⟨a, ha⟩ := entry_exists dur n frm dst h1 hf hd
    obtain ⟨b, hb⟩ := entry_exists dist n frm dst h2 hf hd
    unfold Simple.duration Simple.distance
    rw [List.getD_eq_getElem?_getD, List.getD_eq_getElem?_getD, ha, hb]
    exact ⟨rfl, rfl⟩

theorem simple_rejects_size_mismatch (dur dist : List Int) (n m : Nat) (h1 : dur.length = n * n)
    (h2 : dist.length = m * m) (hne : n ≠ m) : Simple.new dur dist = none := by
  unfold Simple.new
  simp only [h1, h2, sqrtRound_sq]
  have : (m != n) = true := by simpa using (Ne.symm hne)
  simp [this]

/-! ## coordinate-based approximation: symmetric with a zero diagonal -/

theorem euclid_symm (a b : Int × Int) : sqDist a b = sqDist b a := by
  unfold sqDist
  congr 1
  ring

theorem euclid_rounded_symm (a b : Int × Int) : sqrtRound (sqDist a b) = sqrtRound (sqDist b a) := by
  rw [euclid_symm]

theorem euclid_zero_diag (a : Int × Int) : sqDist a a = 0 ∧ sqrtRound (sqDist a a) = 0 := by
  have h : sqDist a a = 0 := by
    unfold sqDist
    simp
  exact ⟨h, by rw [h]; exact sqrtRound_sq 0⟩

section Haversine
/-! The haversine formula of `approx_transportation.rs` over an abstract commutative ring `F` with an odd `sin`, an
even `cos`, odd "halving" and degree→radian maps (`x / 2.`, `π * x / 180.`: odd and zero at zero in `f64` too), and
arbitrary binary functions for the quotient-and-root of the radius and for `2 · atan2(√a, √(1 − a))` (only
`arc 0 = 0` is used). `f64` evaluation is outside the model: the product `s·s·cos₁·cos₂` is not reassociated
symmetrically by the code, so the unrounded value may differ in the last bit (S12b); the real code is checked on
its rounded output. -/
variable {F : Type} [CommRing F] (sin cos half rad arc : F → F) (quot : F → F → F) (A B : F)

/-- `a` of `get_haversine_distance` -/
def havA (lat1 lng1 lat2 lng2 : F) : F :=
  sin (half (rad (lat1 - lat2))) * sin (half (rad (lat1 - lat2))) +
    sin (half (rad (lng1 - lng2))) * sin (half (rad (lng1 - lng2))) * cos (rad lat1) * cos (rad lat2)

/-- `wgs84_earth_radius` (applied by the code to the latitude *difference*) -/
def havRadius (x : F) : F :=
  quot (A * A * cos x * (A * A * cos x) + B * B * sin x * (B * B * sin x))
       (A * cos x * (A * cos x) + B * sin x * (B * sin x))

/-- `get_haversine_distance` -/
def haversine (lat1 lng1 lat2 lng2 : F) : F :=
  havRadius sin cos quot A B (rad (lat1 - lat2)) * arc (havA sin cos half rad lat1 lng1 lat2 lng2)

variable (sin_neg : ∀ x, sin (-x) = -sin x) (cos_neg : ∀ x, cos (-x) = cos x)
  (half_neg : ∀ x, half (-x) = -half x) (rad_neg : ∀ x, rad (-x) = -rad x)
include sin_neg cos_neg half_neg rad_neg

theorem haversine_symm (lat1 lng1 lat2 lng2 : F) :
    haversine sin cos half rad arc quot A B lat1 lng1 lat2 lng2 =
    haversine sin cos half rad arc quot A B lat2 lng2 lat1 lng1 := by
  unfold haversine havRadius havA
  rw [← neg_sub lat1 lat2, ← neg_sub lng1 lng2]
  simp only [rad_neg, half_neg, sin_neg, cos_neg, mul_neg, neg_mul, neg_neg]
  rw [mul_right_comm _ (cos (rad lat1))]

omit sin_neg cos_neg half_neg rad_neg in

theorem haversine_zero_diag (lat lng : F) (sin_zero : sin 0 = 0) (half_zero : half 0 = 0) (rad_zero : rad 0 = 0)
    (arc_zero : arc 0 = 0) : haversine sin cos half rad arc quot A B lat lng lat lng = 0 := by
  unfold haversine havA
  simp only [sub_self, rad_zero, half_zero, sin_zero, mul_zero, zero_mul, add_zero, arc_zero]
end Haversine

/-! ## the location of custom type `unknown` -/

/-- `n = max_matrix_index + 1` is the matrix size E1504 enforces; the index `n * n` of the unknown location lies outside
    the matrix on either side of a pair, for dense and for sparse indices (repair a68e4cc) -/
theorem unknown_index_outside (n f t : Nat) : n * n ≤ flatIdx n f (n * n) ∧ n * n ≤ flatIdx n (n * n) t := by
  unfold flatIdx
  constructor
  · omega
  · rcases Nat.eq_zero_or_pos n with h | h
    · subst h; simp
    · have : n * n * 1 ≤ n * n * n := Nat.mul_le_mul_left _ h
      omega

theorem customIndex_outside (locs : List Nat) (n : Nat) (h : locs.foldl max 0 + 1 = n) (f t : Nat) :
    customIndex locs = n * n ∧ n * n ≤ flatIdx n f (customIndex locs) ∧ n * n ≤ flatIdx n (customIndex locs) t := by
  have e : customIndex locs = n * n := by unfold customIndex; rw [h]
  rw [e]
  exact ⟨rfl, unknown_index_outside n f t⟩

/-- a pair with the unknown location on one side lies outside every `n × n` matrix: the provider answers with the
    fallback, whichever matrix the profile selects -/
theorem unknown_location_fallback (n : Nat) (mats : List MatrixData) (p : Profile) (m : MatrixData)
    (hm : mats[p.index]? = some m) (hd : m.durations.length = n * n) (hx : m.distances.length = n * n)
    (f t : Nat) (h : f = n * n ∨ t = n * n) (fb : Fallback) (at_ : Rat) :
    (Provider.agnostic n mats).duration fb p f t at_ = (fb.map (·.1)).map (fun d => (d : Rat) * p.scale) ∧
    (Provider.agnostic n mats).distance fb p f t at_ = (fb.map (·.2)).map (fun d => (d : Rat)) := by
  have hidx : n * n ≤ flatIdx n f t := by
    rcases h with h | h
    · subst h; exact (unknown_index_outside n 0 t).2
    · subst h; exact (unknown_index_outside n f 0).1
  obtain ⟨e1, e2⟩ := agnostic_unfold n mats fb p f t at_ m hm
  rw [e1, e2, durAt, distAt, List.getElem?_eq_none (hd ▸ hidx), List.getElem?_eq_none (hx ▸ hidx)]
  cases fb <;> exact ⟨rfl, rfl⟩

set_option linter.unusedVariables false in
theorem unknown_location_zero (m : MatrixData) (n : Nat) (hd : m.durations.length = n * n)
    (hx : m.distances.length = n * n) (i : Nat) (s : Rat) (f t : Nat) (h : f = n * n ∨ t = n * n) (at_ : Rat) :
    (Provider.agnostic n [m]).duration unknownFallback ⟨0, s⟩ f t at_ = some 0 ∧
    (Provider.agnostic n [m]).distance unknownFallback ⟨0, s⟩ f t at_ = some 0 := by
  obtain ⟨e1, e2⟩ := unknown_location_fallback n [m] ⟨0, s⟩ m rfl hd hx f t h unknownFallback at_
  rw [e1, e2]
  exact ⟨congrArg some (show ((0 : Int) : Rat) * s = 0 by rw [Int.cast_zero, zero_mul]), rfl⟩

/-- indices `{0, 3}`, a 4 × 4 matrix: index 16 (before repair a68e4cc /repo gave 4, the entry of the pair (1, 0)) -/
example : customIndex [0, 3] = 16 ∧ 4 * 4 ≤ flatIdx 4 0 (customIndex [0, 3]) := by decide

/-! ## non-vacuity: concrete inputs that meet the hypotheses -/

section examples

def exA : MatrixData := ⟨0, none, [0, 3, 5, 0], [0, 30, 50, 0]⟩
def exB : MatrixData := ⟨1, none, [0, 4, 6, 0], [0, 40, 60, 0]⟩

/-- `agnostic_returns_entry` applies to both matrices -/
example : build [exA, exB] = .ok (.agnostic 2 [exA, exB]) ∧ (∀ m ∈ [exA, exB], m.timestamp = none) ∧
    (∀ m ∈ [exA, exB], m.durations.length = 2 * 2) := by
  refine ⟨?_, by decide, by decide⟩
  rw [build_well_formed_untimed _ 2 (by decide) (by decide), sortByIndex_of_sorted _ (by decide)]

example : (Provider.agnostic 2 [exA, exB]).duration none ⟨1, 3 / 2⟩ 1 0 7 = some 9 ∧
    (Provider.agnostic 2 [exA, exB]).distance none ⟨1, 3 / 2⟩ 1 0 7 = some 60 := by
  refine ⟨?_, rfl⟩
  show some (((6 : Int) : Rat) * (3 / 2)) = some 9
  norm_num

def exL : MatrixData := ⟨0, some 0, [10], [7]⟩
def exR : MatrixData := ⟨0, some 8, [18], [9]⟩

/-- the hypotheses of the in-between theorems are met (input order reversed) -/
example : AwareCtx [exR, exL] (.aware 1 [exR, exL]) 1 ⟨0, 3 / 2⟩ ∧ Bracket (supplied [exR, exL] 0) exL exR ∧
    exL.key < keyOfRat ((2 : Int) : Rat) ∧ keyOfRat ((2 : Int) : Rat) < exR.key := by
  have hw : wellFormed [exR, exL] 1 = true := by decide
  have ht : ∃ m ∈ [exR, exL], m.timestamp.isSome = true := ⟨exR, List.mem_cons_self, rfl⟩
  exact ⟨⟨build_well_formed_timed _ 1 hw ht, ht, by decide, wellFormed_distinct _ 1 hw ht 0⟩,
    ⟨by decide, by decide, by decide⟩, by decide, by decide⟩

/-- for `well_formed_is_served` -/
example : wellFormed [exB, exA] 2 = true ∧ wellFormed [exR, exL] 1 = true := by
  decide

/-- for `builder_rejects_inconsistent`: the same profile twice in an untimed set of square matrices -/
example : inconsistent [⟨0, none, [1], [1]⟩, ⟨0, none, [2], [2]⟩] = true ∧
    (∀ m ∈ ([⟨0, none, [1], [1]⟩, ⟨0, none, [2], [2]⟩] : List MatrixData),
      ∃ a b, m.durations.length = a * a ∧ m.distances.length = b * b) := by
  refine ⟨by decide, fun m hm => ?_⟩
  rcases List.mem_pair.mp hm with h | h <;> subst h <;> exact ⟨1, 1, rfl, rfl⟩

/-- for `reader_maps_by_name`, with an unreachable entry -/
example :
    let car : ApiMatrix := ⟨some "car", none, [0, 3, 5, 0], [0, 30, 50, 0], some [0, 1, 0, 0]⟩
    let truck : ApiMatrix := ⟨some "truck", none, [0, 4, 6, 0], [0, 40, 60, 0], none⟩
    namesKnown ["car", "truck"] [car, truck] = true ∧
    namedFor ["car", "truck"] [car, truck] "truck" = [⟨1, none, [0, 4, 6, 0], [0, 40, 60, 0]⟩] ∧
    namedFor ["car", "truck"] [car, truck] "car" = [⟨0, none, [0, -1, 5, 0], [0, -1, 50, 0]⟩] := by
  refine ⟨by decide, by decide, by decide⟩

end examples

end C16
