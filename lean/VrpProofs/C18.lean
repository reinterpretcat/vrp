import VrpModel.C18
import VrpProofs.C18.Slot
import VrpProofs.C18.Select
import VrpProofs.C18.Reward
import VrpProofs.C18.Termination
import VrpProofs.C18.Sample
import VrpProofs.C18.Period
import VrpProofs.C18.Remedian
/-!
# C18 — adaptive operator selection and termination math stay numerically sane (partial: exact arithmetic)

What the exact model cannot exhibit (the reason this property is partial for this technique): `f64` rounding,
overflow to `±∞`, NaN. The harness evaluates the same invariants on the real `f64` values.
-/
namespace C18

/-- `variation_fires_iff` (period mode) in the property's words -/
theorem variation_fires_iff_period_cv (dec : List Sample → List Sample) (period : Nat) (th : Rat) (hth : 0 ≤ th)
    (hist : List Sample) (e : Nat) (f : List Rat) (hs : TimeSorted (hist ++ [(e, f)])) (hlen : hist.length < 1000) :
    (periodStep dec period th (periodState dec period th hist) e f).2 = true ↔
      period ≤ e ∧ 2 ≤ (hist ++ [(e, f)]).length ∧
      ∀ idx, (∃ r ∈ (periodWindow period (hist ++ [(e, f)]) e).map (·.2), idx < r.length) →
        cvLeSpec (column ((periodWindow period (hist ++ [(e, f)]) e).map (·.2)) idx) th = true := by
  rw [variation_fires_iff_period dec period th hist e f hs hlen, periodSpec]
  split
  · rename_i hc
    exact iff_of_false Bool.false_ne_true fun h => hc.elim (Nat.not_lt.mpr h.1) (Nat.not_lt.mpr h.2.1)
  · rename_i hc
    rw [not_or, Nat.not_lt, Nat.not_lt] at hc
    rw [checkThreshold_iff_spec _ _ hth]
    exact ⟨fun h => ⟨hc.1, hc.2, h⟩, fun h => h.2.2⟩

/-- `SelectionSamplingIterator` (Algorithm S), whatever the random outcomes -/
theorem selectionSampling_spec (size : Nat) : ∀ (fuel processed needed : Nat) (hits : List Bool), size - processed ≤ fuel →
    (selectionSampling size fuel processed needed hits).length = min needed (size - processed) ∧
    (∀ x ∈ selectionSampling size fuel processed needed hits, processed ≤ x ∧ x < size) ∧
    (selectionSampling size fuel processed needed hits).Pairwise (· < ·)
  | 0, processed, needed, hits, h => by
    rw [selectionSampling, Nat.le_zero.mp h, Nat.min_zero]
    exact ⟨rfl, nofun, .nil⟩
  | fuel + 1, processed, needed, hits, h => by
    simp only [selectionSampling]
    split
    · rename_i hc
      have ih := fun n => selectionSampling_spec size fuel (processed + 1) n hits.tail
        (Nat.sub_add_eq .. ▸ Nat.sub_le_of_le_add h)
      have hrest : ∀ {n}, ∀ x ∈ selectionSampling size fuel (processed + 1) n hits.tail, processed < x ∧ x < size :=
        fun x hx => (ih _).2.1 x hx
      have hleft : size - (processed + 1) + 1 = size - processed := by
        rw [Nat.sub_add_eq, Nat.sub_add_cancel (Nat.sub_pos_of_lt hc.2)]
      by_cases hh : (if size - processed ≤ needed then true else hits.headD true) = true
      · rw [if_pos hh]
        refine ⟨?_, ?_, List.pairwise_cons.mpr ⟨fun y hy => (hrest y hy).1, (ih _).2.2⟩⟩
        · rw [List.length_cons, (ih _).1, ← Nat.add_min_add_right, hleft, Nat.sub_add_cancel (Nat.pos_of_ne_zero hc.1)]
        · intro x hx
          rcases List.mem_cons.mp hx with rfl | hx
          · exact ⟨Nat.le_refl _, hc.2⟩
          · exact ⟨Nat.le_of_lt (hrest x hx).1, (hrest x hx).2⟩
      · rw [if_neg hh]
        have hlt : needed < size - processed := Nat.lt_of_not_le fun hle => hh (if_pos hle)
        refine ⟨?_, fun x hx => ⟨Nat.le_of_lt (hrest x hx).1, (hrest x hx).2⟩, (ih _).2.2⟩
        rw [(ih _).1, Nat.min_eq_left (Nat.le_of_lt hlt), Nat.min_eq_left (Nat.le_of_lt_succ (by rw [Nat.succ_eq_add_one, hleft]; exact hlt))]
    · rename_i hc
      refine ⟨?_, nofun, .nil⟩
      rcases Nat.eq_zero_or_pos needed with h0 | h0
      · rw [h0, Nat.zero_min]; rfl
      · rw [Nat.sub_eq_zero_of_le (Nat.le_of_not_lt fun hlt => hc ⟨Nat.ne_of_gt h0, hlt⟩), Nat.min_zero]; rfl

/-- the harness calls the iterator with fuel `size + 1` -/
theorem selectionSampling_count (size amount : Nat) (hits : List Bool) :
    (selectionSampling size (size + 1) 0 amount hits).length = min amount size :=
  (selectionSampling_spec size (size + 1) 0 amount hits (Nat.le_succ size)).1

theorem rangeSampling_spec (size sampleSize pick : Nat) :
    (rangeSampling size sampleSize pick).length ≤ sampleSize ∧
    ∀ i (h : i < (rangeSampling size sampleSize pick).length),
      (rangeSampling size sampleSize pick)[i] = pick * sampleSize + i ∧ pick * sampleSize + i < size := by
  unfold rangeSampling
  refine ⟨List.length_take_le _ _, fun i h => ?_⟩
  rw [List.length_take, List.length_drop, List.length_range] at h
  rw [List.getElem_take, List.getElem_drop, List.getElem_range]
  exact ⟨rfl, Nat.add_lt_of_lt_sub' (Nat.lt_of_lt_of_le h (Nat.min_le_right _ _))⟩

theorem noise_identity_without_hit (isAddition : Bool) (u value : Rat) : noiseGenerate isAddition false u value = value := by
  simp [noiseGenerate]

example : selectionSampling 10 11 0 3 [false, true, false, false, true] = [1, 4, 5] := by decide

end C18
