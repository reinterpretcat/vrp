import VrpModel.C06
/-!
# C06 — capacity half: the O(1) test on cached maxima is sound (one capacity dimension)

SPEC: the step-by-step load profile of one interval (`loads1`: load at departure = all static
deliveries, then `+ change` after every activity) stays within capacity.
MODEL: `has_demand_violation` on the caches `current / max_past / max_future` of
`recalculate_states` (`viol1` on `runMax1` / `maxFuture1`); the dynamic change is tested with the static delivery
added back (`change + sd`, repair S25 of /repo: a static delivery does not compensate a dynamic pickup).
-/

namespace C06Cap
open Route

structure Dem1 where
  sp : Int
  dp : Int
  sd : Int
  dd : Int
deriving Repr

def Dem1.change (d : Dem1) : Int := d.sp + d.dp - d.sd - d.dd

def total (ds : List Dem1) : Int := (ds.map Dem1.change).sum
def startLoad1 (ds : List Dem1) : Int := (ds.map (·.sd)).sum

def after1 (s : Int) : List Dem1 → List Int
  | [] => []
  | d :: ds => (s + d.change) :: after1 (s + d.change) ds

/-- SPEC: load at departure, then after every activity -/
def loads1 (ds : List Dem1) : List Int := startLoad1 ds :: after1 (startLoad1 ds) ds
def capOk1 (cap : Int) (ds : List Dem1) : Prop := ∀ l ∈ loads1 ds, l ≤ cap

/-- `max_past`: running maximum from the left, the fold starts from `m` (the zero load in the code) -/
def runMax1 (m : Int) : List Int → List Int
  | [] => []
  | l :: rest => max m l :: runMax1 (max m l) rest

/-- `max_future`: running maximum from the right -/
def maxFuture1 : List Int → List Int
  | [] => []
  | [l] => [l]
  | l :: b :: rest =>
    match maxFuture1 (b :: rest) with
    | [] => [l]
    | m :: tail => max l m :: m :: tail

/-- MODEL of `has_demand_violation` for one dimension (true = some violation) -/
def viol1 (cap past future cur : Int) (x : Dem1) : Bool :=
  (x.sd != 0 && decide (cap < past + x.sd)) ||
  (x.sp != 0 && decide (cap < future + x.sp)) ||
  (x.change + x.sd != 0 && (decide (cap < future + (x.change + x.sd)) || decide (cap < cur + (x.change + x.sd))))

theorem viol1_false_iff (cap past fut cur : Int) (x : Dem1) :
    viol1 cap past fut cur x = false ↔
      (x.sd = 0 ∨ past + x.sd ≤ cap) ∧ (x.sp = 0 ∨ fut + x.sp ≤ cap) ∧
      (x.change + x.sd = 0 ∨ (fut + (x.change + x.sd) ≤ cap ∧ cur + (x.change + x.sd) ≤ cap)) := by
  simp only [viol1, Bool.or_eq_false_iff, Bool.and_eq_false_iff, bne_eq_false_iff_eq, decide_eq_false_iff_not,
    Int.not_lt, and_assoc]

theorem runMax1_length (m : Int) (ls : List Int) : (runMax1 m ls).length = ls.length := by
  induction ls generalizing m with
  | nil => rfl
  | cons l r ih => rw [runMax1, List.length_cons, ih, List.length_cons]

theorem runMax1_spec (m : Int) (ls : List Int) (i : Nat) (hi : i < ls.length) :
    m ≤ (runMax1 m ls).getD i 0 ∧ (∀ l ∈ ls.take (i + 1), l ≤ (runMax1 m ls).getD i 0) ∧
      ((runMax1 m ls).getD i 0 = m ∨ (runMax1 m ls).getD i 0 ∈ ls.take (i + 1)) := by
  induction ls generalizing m i with
  | nil => cases hi
  | cons a r ih =>
    cases i with
    | zero =>
      simp only [runMax1, List.getD_cons_zero, List.take_succ_cons, List.take_zero, List.mem_singleton]
      exact ⟨Int.le_max_left m a, fun l hl => hl ▸ Int.le_max_right m a, Std.max_eq_or⟩
    | succ i =>
      obtain ⟨h1, h2, h3⟩ := ih (max m a) i (Nat.lt_of_succ_lt_succ hi)
      simp only [runMax1, List.getD_cons_succ, List.take_succ_cons, List.mem_cons]
      refine ⟨Int.le_trans (Int.le_max_left m a) h1, fun l hl => ?_, ?_⟩
      · rcases hl with rfl | hl
        · exact Int.le_trans (Int.le_max_right m l) h1
        · exact h2 l hl
      · rcases h3 with h | h
        · rw [h]; exact Std.max_eq_or.imp_right Or.inl
        · exact Or.inr (Or.inr h)

theorem runMax1_ge (m : Int) (ls : List Int) (i : Nat) (hi : i < ls.length) :
    ∀ l ∈ ls.take (i + 1), l ≤ (runMax1 m ls).getD i 0 := (runMax1_spec m ls i hi).2.1

theorem runMax1_attained (m : Int) (ls : List Int) (i : Nat) (hi : i < ls.length) :
    (runMax1 m ls).getD i 0 = m ∨ (runMax1 m ls).getD i 0 ∈ ls.take (i + 1) := (runMax1_spec m ls i hi).2.2

theorem runMax1_le_of_le (m : Int) (ls : List Int) (i p : Nat) (hip : i ≤ p) (hp : p < ls.length) :
    (runMax1 m ls).getD i 0 ≤ (runMax1 m ls).getD p 0 := by
  induction ls generalizing m i p with
  | nil => cases hp
  | cons a r ih =>
    cases i with
    | zero =>
      obtain ⟨h1, h2, _⟩ := runMax1_spec m (a :: r) p hp
      exact Int.max_le.mpr ⟨h1, h2 a List.mem_cons_self⟩
    | succ i =>
      cases p with
      | zero => cases hip
      | succ p => exact ih (max m a) i p (Nat.le_of_succ_le_succ hip) (Nat.lt_of_succ_lt_succ hp)

theorem runMax1_mono0 (m : Int) (ls : List Int) (p : Nat) (hp : p < ls.length) :
    (runMax1 m ls).getD 0 0 ≤ (runMax1 m ls).getD p 0 := runMax1_le_of_le m ls 0 p (Nat.zero_le p) hp

theorem maxFuture1_length (ls : List Int) : (maxFuture1 ls).length = ls.length := by
  induction ls with
  | nil => rfl
  | cons a r ih =>
    cases r with
    | nil => rfl
    | cons b q =>
      rw [maxFuture1]
      split
      · rename_i h; rw [h] at ih; cases ih
      · rename_i h; rw [h] at ih; exact congrArg (· + 1) ih

theorem maxFuture1_cons_cons (a b : Int) (q : List Int) :
    maxFuture1 (a :: b :: q) = max a ((maxFuture1 (b :: q)).getD 0 0) :: maxFuture1 (b :: q) := by
  have hlen := maxFuture1_length (b :: q)
  rw [maxFuture1]
  split
  · rename_i h; rw [h] at hlen; cases hlen
  · rename_i h; rw [h]; rfl

theorem maxFuture1_spec (ls : List Int) (i : Nat) (hi : i < ls.length) :
    (∀ l ∈ ls.drop i, l ≤ (maxFuture1 ls).getD i 0) ∧ (maxFuture1 ls).getD i 0 ∈ ls.drop i := by
  induction ls generalizing i with
  | nil => cases hi
  | cons a r ih =>
    cases r with
    | nil =>
      obtain rfl : i = 0 := Nat.lt_one_iff.mp hi
      exact ⟨fun l hl => Int.le_of_eq (List.mem_singleton.mp hl), List.mem_singleton.mpr rfl⟩
    | cons b q =>
      rw [maxFuture1_cons_cons]
      cases i with
      | zero =>
        obtain ⟨h1, h2⟩ := ih 0 (Nat.zero_lt_succ _)
        rw [List.drop_zero] at h1 h2 ⊢
        rw [List.getD_cons_zero]
        refine ⟨fun l hl => ?_, ?_⟩
        · rcases List.mem_cons.mp hl with rfl | hl
          · exact Int.le_max_left ..
          · exact Int.le_trans (h1 l hl) (Int.le_max_right ..)
        · rcases Std.max_eq_or (a := a) (b := (maxFuture1 (b :: q)).getD 0 0) with h | h <;> rw [h]
          · exact List.mem_cons_self
          · exact List.mem_cons_of_mem _ h2
      | succ i => exact ih i (Nat.lt_of_succ_lt_succ hi)

theorem maxFuture1_ge (ls : List Int) (i : Nat) (hi : i < ls.length) :
    ∀ l ∈ ls.drop i, l ≤ (maxFuture1 ls).getD i 0 := (maxFuture1_spec ls i hi).1

theorem maxFuture1_attained (ls : List Int) (i : Nat) (hi : i < ls.length) :
    (maxFuture1 ls).getD i 0 ∈ ls.drop i := (maxFuture1_spec ls i hi).2

theorem getD_mem_drop (ls : List Int) (i p : Nat) (hpi : p ≤ i) (hi : i < ls.length) : ls.getD i 0 ∈ ls.drop p := by
  refine List.drop_subset_drop_left ls hpi (List.mem_drop_iff_getElem.mpr ⟨0, by omega, ?_⟩)
  rw [List.getD_eq_getElem?_getD, List.getElem?_eq_getElem hi]
  rfl

theorem length_pred_lt (ls : List Int) (hne : ls ≠ []) : ls.length - 1 < ls.length :=
  Nat.sub_lt (List.length_pos_iff.mpr hne) Nat.one_pos

theorem maxFuture1_last_le (ls : List Int) (p : Nat) (hne : ls ≠ []) (hp : p < ls.length) :
    (maxFuture1 ls).getD (ls.length - 1) 0 ≤ (maxFuture1 ls).getD p 0 :=
  maxFuture1_ge ls p hp _
    (List.drop_subset_drop_left ls (Nat.le_sub_one_of_lt hp) (maxFuture1_attained ls _ (length_pred_lt ls hne)))

theorem cur_last_le_future (ls : List Int) (p : Nat) (hne : ls ≠ []) (hp : p < ls.length) :
    ls.getD (ls.length - 1) 0 ≤ (maxFuture1 ls).getD p 0 :=
  maxFuture1_ge ls p hp _ (getD_mem_drop ls _ p (Nat.le_sub_one_of_lt hp) (length_pred_lt ls hne))

def insertAt1 (ds : List Dem1) (p : Nat) (x : Dem1) : List Dem1 := ds.take p ++ x :: ds.drop p

theorem total_cons (d : Dem1) (a : List Dem1) : total (d :: a) = d.change + total a := by
  rw [total, List.map_cons, List.sum_cons, total]

theorem after1_append (s : Int) (a b : List Dem1) :
    after1 s (a ++ b) = after1 s a ++ after1 (s + total a) b := by
  induction a generalizing s with
  | nil => rw [List.nil_append, after1, List.nil_append, total, List.map_nil, List.sum_nil, Int.add_zero]
  | cons d a ih => rw [List.cons_append, after1, after1, ih, total_cons, List.cons_append, Int.add_assoc]

theorem after1_shift (s c : Int) (ds : List Dem1) : after1 (s + c) ds = (after1 s ds).map (· + c) := by
  induction ds generalizing s with
  | nil => rfl
  | cons d ds ih => rw [after1, after1, List.map_cons, Int.add_right_comm, ih]

theorem after1_length (s : Int) (ds : List Dem1) : (after1 s ds).length = ds.length := by
  induction ds generalizing s with
  | nil => rfl
  | cons d ds ih => rw [after1, List.length_cons, ih, List.length_cons]

theorem loads1_length (ds : List Dem1) : (loads1 ds).length = ds.length + 1 := by
  rw [loads1, List.length_cons, after1_length]

theorem cur_mem (s : Int) (a : List Dem1) : s + total a ∈ s :: after1 s a := by
  induction a generalizing s with
  | nil => rw [total, List.map_nil, List.sum_nil, Int.add_zero]; exact List.mem_cons_self
  | cons d a ih =>
    rw [after1, total_cons, ← Int.add_assoc]
    exact List.mem_cons_of_mem _ (ih (s + d.change))

theorem startLoad1_insert (ds : List Dem1) (p : Nat) (x : Dem1) :
    startLoad1 (insertAt1 ds p x) = startLoad1 ds + x.sd := by
  conv => rhs; rw [← List.take_append_drop p ds]
  simp only [startLoad1, insertAt1, List.map_append, List.sum_append, List.map_cons, List.sum_cons]
  omega

theorem loads1_split (ds : List Dem1) (p : Nat) :
    loads1 ds = (startLoad1 ds :: after1 (startLoad1 ds) (ds.take p))
      ++ after1 (startLoad1 ds + total (ds.take p)) (ds.drop p) := by
  conv => lhs; rw [loads1, ← List.take_append_drop p ds, after1_append]
  rw [List.take_append_drop, List.cons_append]

theorem drop_len_after1 (s : Int) (a : List Dem1) : (s :: after1 s a).drop a.length = [s + total a] := by
  induction a generalizing s with
  | nil => rw [total, List.map_nil, List.sum_nil, Int.add_zero]; rfl
  | cons d a ih => rw [after1, List.length_cons, List.drop_succ_cons, ih, total_cons, Int.add_assoc]

theorem loads1_take (ds : List Dem1) (p : Nat) (hp : p ≤ ds.length) :
    (loads1 ds).take (p + 1) = startLoad1 ds :: after1 (startLoad1 ds) (ds.take p) := by
  have hlen : (startLoad1 ds :: after1 (startLoad1 ds) (ds.take p)).length = p + 1 := by
    rw [List.length_cons, after1_length, List.length_take_of_le hp]
  rw [loads1_split ds p, List.take_append_of_le_length (Nat.le_of_eq hlen.symm),
    List.take_of_length_le (Nat.le_of_eq hlen)]

theorem loads1_drop (ds : List Dem1) (p : Nat) (hp : p ≤ ds.length) :
    (loads1 ds).drop p = (startLoad1 ds + total (ds.take p)) ::
      after1 (startLoad1 ds + total (ds.take p)) (ds.drop p) := by
  have hlen : p ≤ (startLoad1 ds :: after1 (startLoad1 ds) (ds.take p)).length := by
    rw [List.length_cons, after1_length, List.length_take_of_le hp]; exact Nat.le_succ p
  have := drop_len_after1 (startLoad1 ds) (ds.take p)
  rw [List.length_take_of_le hp] at this
  rw [loads1_split ds p, List.drop_append_of_le_length hlen, this, List.singleton_append]

theorem loads1_getD (ds : List Dem1) (p : Nat) (hp : p ≤ ds.length) :
    (loads1 ds).getD p 0 = startLoad1 ds + total (ds.take p) := by
  have := congrArg (·[0]?) (loads1_drop ds p hp)
  rw [List.getD_eq_getElem?_getD]
  simp only [List.getElem?_drop, Nat.add_zero, List.getElem?_cons_zero] at this
  rw [this, Option.getD_some]

/-- the profile with `x` inserted at the pivot: the static delivery of `x` is on board up to the pivot, from the pivot
    on the loads rise by what `x` leaves on board (`sp + dp - dd = change + sd`) -/
theorem loads1_insertAt1 (ds : List Dem1) (p : Nat) (x : Dem1) :
    loads1 (insertAt1 ds p x) =
      (startLoad1 ds :: after1 (startLoad1 ds) (ds.take p)).map (· + x.sd) ++
      ((startLoad1 ds + total (ds.take p)) :: after1 (startLoad1 ds + total (ds.take p)) (ds.drop p)).map
        (· + (x.change + x.sd)) := by
  have e : startLoad1 ds + x.sd + total (ds.take p) + x.change
      = startLoad1 ds + total (ds.take p) + (x.change + x.sd) := by omega
  rw [loads1, startLoad1_insert, insertAt1, after1_append, after1, e, List.map_cons, List.map_cons,
    ← after1_shift, ← after1_shift, List.cons_append]

theorem capOk1_insertAt1_iff (cap : Int) (ds : List Dem1) (p : Nat) (x : Dem1) :
    capOk1 cap (insertAt1 ds p x) ↔
      (∀ l ∈ startLoad1 ds :: after1 (startLoad1 ds) (ds.take p), l + x.sd ≤ cap) ∧
      (∀ l ∈ (startLoad1 ds + total (ds.take p)) :: after1 (startLoad1 ds + total (ds.take p)) (ds.drop p),
        l + (x.change + x.sd) ≤ cap) := by
  rw [capOk1, loads1_insertAt1, List.forall_mem_append, List.forall_mem_map, List.forall_mem_map]

theorem capOk1_iff_segments (cap : Int) (ds : List Dem1) (p : Nat) :
    capOk1 cap ds ↔
      (∀ l ∈ startLoad1 ds :: after1 (startLoad1 ds) (ds.take p), l ≤ cap) ∧
      (∀ l ∈ (startLoad1 ds + total (ds.take p)) :: after1 (startLoad1 ds + total (ds.take p)) (ds.drop p),
        l ≤ cap) := by
  rw [capOk1, loads1_split ds p, List.forall_mem_append]
  refine and_congr_right fun hpast => ⟨fun h l hl => ?_, fun h l hl => h l (List.mem_cons_of_mem _ hl)⟩
  exact (List.mem_cons.mp hl).elim (fun e => e ▸ hpast _ (cur_mem _ _)) (h l)

/-- the `∀`-form of "no violation": what the cached maxima stand for -/
def noViolation (cap : Int) (ds : List Dem1) (p : Nat) (x : Dem1) : Prop :=
  let S := startLoad1 ds
  let cur := S + total (ds.take p)
  let past := S :: after1 S (ds.take p)
  let future := cur :: after1 cur (ds.drop p)
  (x.sd ≠ 0 → ∀ l ∈ past, l + x.sd ≤ cap) ∧
  (x.sp ≠ 0 → ∀ l ∈ future, l + x.sp ≤ cap) ∧
  (x.change + x.sd ≠ 0 → (∀ l ∈ future, l + (x.change + x.sd) ≤ cap) ∧ cur + (x.change + x.sd) ≤ cap)

/-- **the accepted insertion keeps every load within capacity** — for every demand shape (static and
    dynamic parts mixed), every tour length and every position -/
theorem cap_sound_forall (cap : Int) (ds : List Dem1) (p : Nat) (x : Dem1)
    (hok : capOk1 cap ds) (hnv : noViolation cap ds p x) :
    capOk1 cap (insertAt1 ds p x) := by
  obtain ⟨h1, _, h3⟩ := hnv
  obtain ⟨hpast, hfut⟩ := (capOk1_iff_segments cap ds p).mp hok
  refine (capOk1_insertAt1_iff cap ds p x).mpr ⟨fun l hl => ?_, fun l hl => ?_⟩
  · by_cases hs : x.sd = 0
    · have := hpast l hl; omega
    · exact h1 hs l hl
  · by_cases hc : x.change + x.sd = 0
    · have := hfut l hl; omega
    · exact (h3 hc).1 l hl

theorem add_le_cap {cap l b : Int} (g : Int) (h : l ≤ b) (hb : b + g ≤ cap) : l + g ≤ cap :=
  Int.le_trans (Int.add_le_add_right h g) hb

/-- the verdict "no violation" needs the cached maxima only as upper bounds of the segments they summarise; with a load `c`
    carried into the interval on top of every load, it is "no violation" for the capacity lowered by `c` -/
theorem noViolation_of_viol1 (cap c past fut : Int) (ds : List Dem1) (p : Nat) (x : Dem1)
    (hpast : ∀ l ∈ startLoad1 ds :: after1 (startLoad1 ds) (ds.take p), l + c ≤ past)
    (hfut : ∀ l ∈ (startLoad1 ds + total (ds.take p)) :: after1 (startLoad1 ds + total (ds.take p)) (ds.drop p),
      l + c ≤ fut)
    (hnv : viol1 cap past fut (startLoad1 ds + total (ds.take p) + c) x = false) :
    noViolation (cap - c) ds p x := by
  obtain ⟨hA, hB, hC⟩ := (viol1_false_iff ..).mp hnv
  have key : ∀ {l b g : Int}, l + c ≤ b → b + g ≤ cap → l + g ≤ cap - c := by intros; omega
  exact ⟨fun hs l hl => key (hpast l hl) (hA.resolve_left hs), fun hs l hl => key (hfut l hl) (hB.resolve_left hs),
    fun hs => ⟨fun l hl => key (hfut l hl) (hC.resolve_left hs).1, key (Int.le_refl _) (hC.resolve_left hs).2⟩⟩

/-- **C06 soundness (capacity, one dimension)**: if the model of `has_demand_violation`, fed with
    the cached `max_past / max_future / current` at the pivot, reports no violation, then the load
    profile of the tour with the job inserted stays within capacity. -/
theorem cap_sound1 (cap : Int) (ds : List Dem1) (p : Nat) (x : Dem1) (hp : p ≤ ds.length)
    (hok : capOk1 cap ds)
    (hnv : viol1 cap ((runMax1 0 (loads1 ds)).getD p 0) ((maxFuture1 (loads1 ds)).getD p 0)
            ((loads1 ds).getD p 0) x = false) :
    capOk1 cap (insertAt1 ds p x) := by
  have hp' : p < (loads1 ds).length := by rw [loads1_length]; exact Nat.lt_succ_of_le hp
  have hpastC := runMax1_ge 0 (loads1 ds) p hp'
  have hfutC := maxFuture1_ge (loads1 ds) p hp'
  rw [loads1_take ds p hp] at hpastC
  rw [loads1_drop ds p hp] at hfutC
  rw [loads1_getD ds p hp, ← Int.add_zero (startLoad1 ds + total (ds.take p))] at hnv
  have := noViolation_of_viol1 cap 0 _ _ ds p x (fun l hl => (Int.add_zero l).symm ▸ hpastC l hl)
    (fun l hl => (Int.add_zero l).symm ▸ hfutC l hl) hnv
  rw [Int.sub_zero] at this
  exact cap_sound_forall cap ds p x hok this

/-- completeness of the one-dimensional test; of the loads only the one at departure (the sum of the static deliveries)
    has to be non-negative: `max_past` starts from the zero load -/
theorem cap_complete1_of_start (cap : Int) (ds : List Dem1) (p : Nat) (x : Dem1) (hp : p ≤ ds.length)
    (hstart : 0 ≤ startLoad1 ds) (hshape : x.sp = 0 ∨ x.dd ≤ x.dp) (hins : capOk1 cap (insertAt1 ds p x)) :
    viol1 cap ((runMax1 0 (loads1 ds)).getD p 0) ((maxFuture1 (loads1 ds)).getD p 0)
      ((loads1 ds).getD p 0) x = false := by
  have hp' : p < (loads1 ds).length := by rw [loads1_length]; exact Nat.lt_succ_of_le hp
  obtain ⟨hnewPast, hnewFut⟩ := (capOk1_insertAt1_iff cap ds p x).mp hins
  -- the cached values are attained
  have hpastV := runMax1_attained 0 (loads1 ds) p hp'
  have hfutV := maxFuture1_attained (loads1 ds) p hp'
  rw [loads1_take ds p hp] at hpastV
  rw [loads1_drop ds p hp] at hfutV
  have hpastLe : (runMax1 0 (loads1 ds)).getD p 0 + x.sd ≤ cap := by
    rcases hpastV with h0 | hm
    · -- the running maximum is the initial zero: the departure load is not below it
      have := hnewPast (startLoad1 ds) List.mem_cons_self
      omega
    · exact hnewPast _ hm
  have hfutLe := hnewFut _ hfutV
  refine (viol1_false_iff ..).mpr ⟨Or.inr hpastLe, ?_, Or.inr ⟨hfutLe, ?_⟩⟩
  · refine hshape.imp id fun hs => ?_
    unfold Dem1.change at hfutLe
    omega
  · rw [loads1_getD ds p hp]
    exact hnewFut _ List.mem_cons_self

/-- **C06 completeness (capacity, one dimension)**: if the load profile with the job inserted at `p` stays within
    capacity, all loads of the tour are non-negative, and the demand has no static pickup together with a larger
    dynamic delivery (`sp = 0 ∨ dd ≤ dp`: every shape the readers produce), then the O(1) test on the cached
    maxima reports no violation - the test refuses nothing the step-by-step simulation admits. -/
theorem cap_complete1 (cap : Int) (ds : List Dem1) (p : Nat) (x : Dem1) (hp : p ≤ ds.length)
    (hpos : ∀ l ∈ loads1 ds, 0 ≤ l)
    (hshape : x.sp = 0 ∨ x.dd ≤ x.dp)
    (hins : capOk1 cap (insertAt1 ds p x)) :
    viol1 cap ((runMax1 0 (loads1 ds)).getD p 0) ((maxFuture1 (loads1 ds)).getD p 0)
      ((loads1 ds).getD p 0) x = false :=
  cap_complete1_of_start cap ds p x hp (hpos _ List.mem_cons_self) hshape hins

theorem cap_exact1 (cap : Int) (ds : List Dem1) (p : Nat) (x : Dem1) (hp : p ≤ ds.length)
    (hok : capOk1 cap ds) (hpos : ∀ l ∈ loads1 ds, 0 ≤ l) (hshape : x.sp = 0 ∨ x.dd ≤ x.dp) :
    viol1 cap ((runMax1 0 (loads1 ds)).getD p 0) ((maxFuture1 (loads1 ds)).getD p 0)
      ((loads1 ds).getD p 0) x = false ↔ capOk1 cap (insertAt1 ds p x) :=
  ⟨cap_sound1 cap ds p x hp hok, cap_complete1 cap ds p x hp hpos hshape⟩

-- the shape condition is needed: a static pickup with a larger dynamic delivery is refused although it fits
example : viol1 10 ((runMax1 0 (loads1 [⟨8, 0, 0, 0⟩])).getD 1 0) ((maxFuture1 (loads1 [⟨8, 0, 0, 0⟩])).getD 1 0)
    ((loads1 [⟨8, 0, 0, 0⟩]).getD 1 0) ⟨3, 0, 0, 3⟩ = true ∧ capOk1 10 (insertAt1 [⟨8, 0, 0, 0⟩] 1 ⟨3, 0, 0, 3⟩) := by
  constructor
  · decide +kernel
  · intro l hl; simp [loads1, insertAt1, startLoad1, after1, Dem1.change] at hl; omega

/-! ## the route-level pre-check is a necessary condition (repair S43 of /repo)

`can_handle_demand_on_intervals` without an index tries the static delivery part of a mixed demand at the start and the
rest at the end of the interval. If the job passes the activity-level test at ANY position `p`, both parts pass: the route
level test never rejects a route in which the job has an admissible position. -/

theorem viol1_parts (cap P F C P0 F0 C0 PL FL CL : Int) (x : Dem1) (hP : P0 ≤ P) (hF : FL ≤ F) (hC : CL ≤ F)
    (hnv : viol1 cap P F C x = false) :
    viol1 cap P0 F0 C0 ⟨0, 0, x.sd, 0⟩ = false ∧ viol1 cap PL FL CL ⟨x.sp, x.dp, 0, x.dd⟩ = false := by
  have e0 : (0 : Int) + 0 - x.sd - 0 + x.sd = 0 := by omega
  have eg : x.sp + x.dp - 0 - x.dd + 0 = x.change + x.sd := by unfold Dem1.change; omega
  obtain ⟨hA, hB, hC'⟩ := (viol1_false_iff ..).mp hnv
  refine ⟨(viol1_false_iff ..).mpr ⟨hA.imp_right (add_le_cap _ hP), Or.inl rfl, Or.inl e0⟩,
    (viol1_false_iff ..).mpr ⟨Or.inl rfl, hB.imp_right (add_le_cap _ hF), ?_⟩⟩
  dsimp only [Dem1.change]
  rw [eg]
  exact hC'.imp_right fun h => ⟨add_le_cap _ hF h.1, add_le_cap _ hC h.1⟩

theorem route_precheck_necessary (cap : Int) (ds : List Dem1) (p : Nat) (x : Dem1) (hp : p ≤ ds.length)
    (hnv : viol1 cap ((runMax1 0 (loads1 ds)).getD p 0) ((maxFuture1 (loads1 ds)).getD p 0)
            ((loads1 ds).getD p 0) x = false) :
    viol1 cap ((runMax1 0 (loads1 ds)).getD 0 0) ((maxFuture1 (loads1 ds)).getD 0 0) ((loads1 ds).getD 0 0)
        ⟨0, 0, x.sd, 0⟩ = false ∧
    viol1 cap ((runMax1 0 (loads1 ds)).getD ds.length 0) ((maxFuture1 (loads1 ds)).getD ds.length 0)
        ((loads1 ds).getD ds.length 0) ⟨x.sp, x.dp, 0, x.dd⟩ = false := by
  have hlen := loads1_length ds
  have hp' : p < (loads1 ds).length := by rw [hlen]; exact Nat.lt_succ_of_le hp
  have hne : loads1 ds ≠ [] := List.cons_ne_nil _ _
  -- `max_past` is lowest at the start; `max_future` and `current` at the end are not above `max_future` anywhere
  have hfutL := maxFuture1_last_le (loads1 ds) p hne hp'
  have hcurL := cur_last_le_future (loads1 ds) p hne hp'
  rw [hlen, Nat.add_sub_cancel] at hfutL hcurL
  exact viol1_parts cap _ _ _ _ _ _ _ _ _ x (runMax1_mono0 0 (loads1 ds) p hp') hfutL hcurL hnv

theorem hdv_isSome (cap past fut cur : List Int) (x : Dem) (st : Bool) :
    (C06.hasDemandViolation cap past fut cur x st).isSome =
      ((vNotEmpty x.sd && !vfits cap (vadd past x.sd)) || (vNotEmpty x.sp && !vfits cap (vadd fut x.sp)) ||
       (vNotEmpty (vadd x.change x.sd) &&
         (!vfits cap (vadd fut (vadd x.change x.sd)) || !vfits cap (vadd cur (vadd x.change x.sd))))) := by
  unfold C06.hasDemandViolation
  dsimp only
  generalize (vNotEmpty x.sd && !vfits cap (vadd past x.sd)) = A
  generalize (vNotEmpty x.sp && !vfits cap (vadd fut x.sp)) = B
  generalize (vNotEmpty (vadd x.change x.sd) &&
    (!vfits cap (vadd fut (vadd x.change x.sd)) || !vfits cap (vadd cur (vadd x.change x.sd)))) = C
  cases A <;> cases B <;> cases C <;> rfl

theorem vNotEmpty_one (a : Int) : vNotEmpty [a] = (a != 0) := by
  rw [vNotEmpty, List.any_cons, List.any_nil, Bool.or_false]

theorem vfits_one (c v : Int) : vfits [c] [v] = decide (v ≤ c) := by
  rw [vfits, List.zipWith_cons_cons, List.zipWith_nil_right, List.all_cons, List.all_nil, Bool.and_true, id]

theorem hasDemandViolation_dim1 (cap past fut cur : Int) (x : Dem1) (st : Bool) :
    (C06.hasDemandViolation [cap] [past] [fut] [cur] ⟨[x.sp], [x.dp], [x.sd], [x.dd]⟩ st).isSome
      = viol1 cap past fut cur x := by
  have e : x.sp + x.dp - (x.sd + x.dd) + x.sd = x.change + x.sd := by unfold Dem1.change; omega
  have hch : vadd (Dem.change ⟨[x.sp], [x.dp], [x.sd], [x.dd]⟩) [x.sd] = [x.change + x.sd] := by rw [← e]; rfl
  rw [hdv_isSome, hch]
  simp only [vadd, List.zipWith_cons_cons, List.zipWith_nil_right, vNotEmpty_one, vfits_one, viol1, ← decide_not,
    Int.not_le]

/-! ### the statement is not vacuous; the rule /repo had before repair S25 (without `+ sd`) is unsound on this witness -/

-- capacity 10, a static pickup of 8 on board from the first activity on; inserting a job with
-- static delivery 5 and dynamic pickup 5 before it is (correctly) refused ...
example : viol1 10 ((runMax1 0 (loads1 [⟨8, 0, 0, 0⟩])).getD 0 0) ((maxFuture1 (loads1 [⟨8, 0, 0, 0⟩])).getD 0 0)
    ((loads1 [⟨8, 0, 0, 0⟩]).getD 0 0) ⟨0, 5, 5, 0⟩ = true := by decide +kernel
-- ... and the tour with it inserted would indeed be overloaded (13 > 10)
example : ¬ capOk1 10 (insertAt1 [⟨8, 0, 0, 0⟩] 0 ⟨0, 5, 5, 0⟩) := by
  intro h
  have := h 13 (by simp [loads1, insertAt1, startLoad1, after1, Dem1.change])
  omega
-- an accepted insertion (hypotheses of `cap_sound1` satisfiable)
example : capOk1 10 [⟨8, 0, 0, 0⟩] ∧
    viol1 10 ((runMax1 0 (loads1 [⟨8, 0, 0, 0⟩])).getD 1 0) ((maxFuture1 (loads1 [⟨8, 0, 0, 0⟩])).getD 1 0)
      ((loads1 [⟨8, 0, 0, 0⟩]).getD 1 0) ⟨2, 0, 0, 0⟩ = false := by
  constructor
  · intro l hl; simp [loads1, startLoad1, after1, Dem1.change] at hl; omega
  · decide +kernel

end C06Cap
