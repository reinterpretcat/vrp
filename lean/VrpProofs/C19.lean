import VrpProofs.C19.Arith
import VrpProofs.C19.Map
import VrpProofs.C19.Contract
import VrpProofs.C19.Train
/-!
# C19 — the self-organising population keeps a well-formed map

**Partial by nature** (`_partial` is not attached to single theorems: they are complete statements about the coordinate
layer): finiteness of `f64` weights and error measures is not a statement about this model at all; it is checked on the
real values by the harness only.
-/
namespace C19

/-! ## the constants extracted from the source -/

/-- what injectivity of the remap needs -/
theorem decim_positive : 0 < Gen.decimMin ∧ 0 < Gen.decimMax := by decide

/-- the code shapes the model mirrors are found verbatim in the source (removal test on either axis, wider axis
    gets the smaller step, body of `get_offset`) -/
theorem source_shape_as_modelled :
    Gen.removalOnEitherAxis = true ∧ Gen.widerAxisGetsMin = true ∧ Gen.offsetBodyAsModelled = true := by decide

/-- the default configuration of the population satisfies the preconditions of the map: enough initial individuals for
    `Network::new` (`≥ sampleMin`), a non-zero re-balance period (`generation % rebalance_memory`), and the thresholds
    `Rosomaxa::new` checks are themselves at least 1 (so an accepted configuration has capacity ≥ 1 everywhere) -/
theorem default_config_ok :
    Gen.sampleMin ≤ Gen.defaultInitialSize ∧ 1 ≤ Gen.defaultRebalanceMemory ∧
    Gen.minElite ≤ Gen.defaultEliteSize ∧ Gen.minNode ≤ Gen.defaultNodeSize ∧ 1 ≤ Gen.minElite ∧ 1 ≤ Gen.minNode ∧
    Gen.sampleMin ≤ Gen.sampleMax ∧ Gen.guardMin ≤ Gen.sampleMin := by decide

theorem compact_never_grows' (net : Net) : (compact net).length ≤ net.length :=
  compact_never_grows net _ _ _

theorem compact_leaves_ge_4 (net : Net) (hwf : WF net) : min Gen.guardMin net.length ≤ (compact net).length :=
  compact_leaves_ge net hwf _ _ _ decim_positive.1 decim_positive.2

example : Gen.guardMin = 4 := by decide

theorem compact_keeps_count' (net : Net) (hwf : WF net)
    (hgo : ¬ (survivors net (steps net Gen.decimMin Gen.decimMax).1 (steps net Gen.decimMin Gen.decimMax).2).length < Gen.guardMin) :
    (compact net).length =
      (survivors net (steps net Gen.decimMin Gen.decimMax).1 (steps net Gen.decimMin Gen.decimMax).2).length :=
  compact_keeps_count net hwf _ _ _ decim_positive.1 decim_positive.2 hgo

theorem compact_keys_perm_spec (net : Net) (hwf : WF net) (hne : net ≠ []) (hr : InRange (keys net)) :
    (keys (compact net)).Perm (specContract (keys net) Gen.decimMin.toNat Gen.decimMax.toNat Gen.guardMin) := by
  have h := contract_keys_perm_spec net hwf hne hr Gen.decimMin.toNat Gen.decimMax.toNat Gen.guardMin
    (Int.lt_toNat.mpr decim_positive.1) (Int.lt_toNat.mpr decim_positive.2)
  rwa [Int.toNat_of_nonneg (Int.le_of_lt decim_positive.1), Int.toNat_of_nonneg (Int.le_of_lt decim_positive.2)] at h

/-- a concrete map: the 5×3 grid around the origin (steps 3 on x, 4 on y) loses column 0 and row 0 and becomes the 4×2
    grid `{-1..2} × {0,1}`: 8 of 15 nodes survive, each under a different coordinate -/
def grid53 : Net :=
  ([-2, -1, 0, 1, 2].flatMap (fun x => [-1, 0, 1].map (fun y => ((x, y), (⟨(x, y), 1, 2⟩ : Node)))))

example : (keys (compact grid53)).length = 8 ∧
    sameSetB (keys (compact grid53)) [(-1, 0), (-1, 1), (0, 0), (0, 1), (1, 0), (1, 1), (2, 0), (2, 1)] = true ∧
    sameSetB (specContract (keys grid53) 3 4 4) (keys (compact grid53)) = true := by decide +kernel

/-- the guard at work: a 2×2 grid would keep a single node, so nothing happens -/
example : keys (compact (([0, 1].flatMap (fun x => [0, 1].map (fun y => ((x, y), (⟨(x, y), 1, 2⟩ : Node))))) : Net))
    = [(0, 0), (0, 1), (1, 0), (1, 1)] := by decide +kernel

/-- **WF(network) after every store_batch / smooth / compact**, for any stream of inputs and any outcome of the
    float-dependent decisions (which unit matches, whether the error threshold is exceeded, what dedup keeps) -/
theorem wf_run (cap dim : Nat) (ops : List Op) (net : Net) (hwf : WF net) (hb : Bounded cap dim net) :
    WF (ops.foldl (applyOp cap dim) net) ∧ Bounded cap dim (ops.foldl (applyOp cap dim) net) :=
  List.foldlRecOn (motive := fun n => WF n ∧ Bounded cap dim n) ops _ ⟨hwf, hb⟩ fun n hn op _ => by
    cases op with
    | store hits => exact ⟨wf_trainBatch _ _ _ _ _ hn.1, bounded_trainBatch _ _ _ _ _ hn.2⟩
    | smooth rounds => exact wf_smooth cap dim n rounds hn.1 hn.2
    | compact hits =>
      exact ⟨wf_trainBatch _ _ _ _ _ (wf_contract n hn.1 _ _ _),
        bounded_trainBatch _ _ _ _ _ (bounded_contract cap dim n hn.1 hn.2 _ _ _ decim_positive.1 decim_positive.2)⟩

theorem applyOp_size (cap dim : Nat) (net : Net) (op : Op) (hwf : WF net) :
    match op with
    | .store _ => ∀ k ∈ keys net, k ∈ keys (applyOp cap dim net op)
    | .smooth _ => keys (applyOp cap dim net op) = keys net
    | .compact _ => keys (applyOp cap dim net op) = keys (compact net) ∧
        (applyOp cap dim net op).length ≤ net.length ∧ min Gen.guardMin net.length ≤ (applyOp cap dim net op).length := by
  cases op with
  | store hits => exact fun k hk => keys_trainBatch_superset cap dim true net hits k hk
  | smooth rounds => exact keys_smooth cap dim net rounds
  | compact hits =>
    have hk : keys (applyOp cap dim net (.compact hits)) = keys (compact net) := keys_trainBatch_false cap dim _ hits
    have hl : (applyOp cap dim net (.compact hits)).length = (compact net).length := by
      rw [← length_keys, hk, length_keys]
    exact ⟨hk, hl.symm ▸ compact_never_grows' net, hl.symm ▸ compact_leaves_ge_4 net hwf⟩

theorem wf_initialNet (dim n g : Nat) (held : Coord → Nat) : WF (initialNet dim n g held) := by
  refine ⟨?_, fun e he => ?_⟩
  · rw [keys, initialNet, List.map_map]
    refine (List.map_id' _).symm ▸ nodup_map_of_inj_on _ _ (fun a _ b _ h => ?_) List.nodup_range
    rw [Prod.mk.injEq, Int.natCast_inj, Int.natCast_inj] at h
    rw [← Nat.div_add_mod a g, ← Nat.div_add_mod b g, h.1, h.2]
  · obtain ⟨c, _, rfl⟩ := List.mem_map.mp he
    rfl

set_option linter.unusedVariables false in
theorem wf_newNetwork (dataSize nodeSize dim n g : Nat) (held : Coord → Nat) (rounds : List (List Hit)) (hg : 0 < g) :
    WF (newNetwork dataSize nodeSize dim n g held rounds) ∧ Bounded nodeSize dim (newNetwork dataSize nodeSize dim n g held rounds) := by
  -- the initial storages are of any size and the rounds run under the capacity `dataSize`: what goes through them is
  -- well-formedness and the dimension; the final `resize` brings every storage under `nodeSize`
  have h := List.foldlRecOn (motive := fun net => WF net ∧ ∀ e ∈ net, e.2.wdim = dim) rounds
    (retrainOnce dataSize dim true)
    ⟨wf_initialNet dim n g held, fun e he => by obtain ⟨c, _, rfl⟩ := List.mem_map.mp he; rfl⟩
    fun net h r _ =>
      ⟨wf_trainBatch _ _ _ _ _ (wf_drainAll net h.1),
       forall_trainBatch (Q := fun e => e.2.wdim = dim) dataSize dim true (fun _ => rfl) (fun _ _ he => he) _ r
         (List.forall_mem_map.mpr h.2)⟩
  exact ⟨wf_map _ _ (fun _ => ⟨rfl, rfl⟩) h.1, List.forall_mem_map.mpr fun e he => ⟨Nat.min_le_right _ _, h.2 e he⟩⟩

example : initialCoords 5 3 = [(0, 0), (1, 0), (2, 0), (0, 1), (1, 1)] := by decide

/-! ## the `Bool` specifications the driver evaluates on the implementation's dumps -/

theorem wfB_iff (cap dim : Nat) (net : Net) : wfB cap dim net = true ↔ WF net ∧ Bounded cap dim net := by
  unfold wfB
  simp only [Bool.and_eq_true, decide_eq_true_eq, List.all_eq_true]
  exact ⟨fun h => ⟨⟨h.1.1, fun e he => (h.2 e he).1.1⟩, fun e he => ⟨(h.2 e he).1.2, (h.2 e he).2⟩⟩,
    fun ⟨hwf, hb⟩ => ⟨⟨hwf.nodup, coords_eq_keys net hwf ▸ hwf.nodup⟩,
      fun e he => ⟨⟨hwf.keyEq e he, (hb e he).1⟩, (hb e he).2⟩⟩⟩

theorem wf_of_wfB (cap dim : Nat) (net : Net) (h : wfB cap dim net = true) : WF net ∧ Bounded cap dim net :=
  (wfB_iff cap dim net).mp h

theorem find_meets_spec (net : Net) (c : Coord) : findSpecB net c (find net c) = true := by
  unfold findSpecB
  cases hf : find net c with
  | none =>
    simp only [Bool.not_eq_true', List.contains_eq_mem, decide_eq_false_iff_not]
    exact (find_eq_none_iff net c).mp hf
  | some n =>
    simp only [List.contains_eq_mem, decide_eq_true_eq]
    exact find_some_mem net c n hf

theorem findSpec_unique (net : Net) (hnd : (keys net).Nodup) (c : Coord) (r : Option Node)
    (h : findSpecB net c r = true) : r = find net c := by
  unfold findSpecB at h
  cases r with
  | none =>
    simp only [Bool.not_eq_true', List.contains_eq_mem, decide_eq_false_iff_not] at h
    exact ((find_eq_none_iff net c).mpr h).symm
  | some n =>
    simp only [List.contains_eq_mem, decide_eq_true_eq] at h
    exact (find_of_mem net c n hnd h).symm

/-! ## the elite -/

theorem elitismAdd_length_le (norm : List Int → List Int) (cap : Nat) (xs new : List Int) :
    (elitismAdd norm cap xs new).length ≤ cap := by
  unfold elitismAdd; rw [List.length_take]; exact Nat.min_le_left _ _

theorem popAddElite_length_le (norm : List Int → List Int) (cap : Nat) (elite offered : List Int)
    (h : elite.length ≤ cap) : (popAddElite norm cap elite offered).length ≤ cap := by
  unfold popAddElite
  split
  · exact h
  · exact elitismAdd_length_le _ _ _ _

theorem eliteCandidates_nil (offered : List Int) : eliteCandidates [] offered = offered := rfl

/-- `hnorm`: sorting/dedup keep at least one element of a non-empty list; `hcap`: `Rosomaxa::new` demands capacity ≥ 1 -/
theorem popAddElite_nonempty (norm : List Int → List Int) (cap : Nat) (elite offered : List Int)
    (hnorm : ∀ l, l ≠ [] → norm l ≠ []) (hcap : 1 ≤ cap) (h : elite ≠ [] ∨ offered ≠ []) :
    popAddElite norm cap elite offered ≠ [] := by
  unfold popAddElite
  split
  · next hc =>
    rcases h with h | h
    · exact h
    · rintro rfl
      exact h (List.isEmpty_iff.mp hc)
  · next hc =>
    intro hnil
    rcases List.take_eq_nil_iff.mp hnil with h0 | hl
    · exact absurd hcap (h0 ▸ Nat.not_succ_le_zero 0)
    · exact hnorm _ (fun happ => hc (by rw [(List.append_eq_nil_iff.mp happ).2]; rfl)) hl

/-- a structurally recursive sort for the examples -/
def insSorted (x : Int) : List Int → List Int
  | [] => [x]
  | y :: ys => if x ≤ y then x :: y :: ys else y :: insSorted x ys
def insSort : List Int → List Int
  | [] => []
  | x :: xs => insSorted x (insSort xs)

/-- only the individual not worse than the best known (5) is offered; the elite keeps its two best -/
example : popAddElite insSort 2 [5, 9] [3, 7, 11] = [3, 5] := by decide
/-- nothing comparable with the best known: the elite is untouched -/
example : popAddElite insSort 2 [5, 9] [7, 11] = [5, 9] := by decide
example : popAddElite insSort 2 [] [7, 11, 4] = [4, 7] := by decide

/-! ## phases -/

theorem rank_addAll (p : Phase) (n : Nat) : rank (addAll p n) = rank p := by
  cases p <;> rfl

theorem updatePhase_initial (initialSize : Nat) (er64 : Int) (k : Nat) (s : Stats) :
    updatePhase initialSize er64 (.initial k) s =
      if s.te > effRatio er64 s then .exploitation else if k ≥ initialSize then .exploration else .initial k := rfl

theorem updatePhase_exploration (initialSize : Nat) (er64 : Int) (s : Stats) :
    updatePhase initialSize er64 .exploration s = if s.te < effRatio er64 s then .exploration else .exploitation := rfl

theorem updatePhase_exploitation (initialSize : Nat) (er64 : Int) (s : Stats) :
    updatePhase initialSize er64 .exploitation s = .exploitation := rfl

theorem updatePhase_rank_le (initialSize : Nat) (er64 : Int) (p : Phase) (s : Stats) :
    rank p ≤ rank (updatePhase initialSize er64 p s) := by
  cases p with
  | initial k => exact Nat.zero_le _
  | exploration =>
    rw [updatePhase_exploration]
    split
    · exact Nat.le_refl _
    · exact Nat.le_succ _
  | exploitation => exact Nat.le_refl _

theorem exploitation_absorbing (initialSize : Nat) (er64 : Int) (s : Stats) (n : Nat) :
    updatePhase initialSize er64 (addAll .exploitation n) s = .exploitation := rfl

/-- the map is built on entering exploration: with at least `initial_size` collected individuals -/
theorem exploration_entry (initialSize : Nat) (er64 : Int) (k : Nat) (s : Stats)
    (h : updatePhase initialSize er64 (.initial k) s = .exploration) : initialSize ≤ k := by
  rw [updatePhase_initial] at h
  split at h
  · cases h
  · split at h
    · assumption
    · cases h

/-- flattened ranks of a run: after `add_all`, after `on_generation`, … -/
def runRanks (l : List (Phase × Phase)) : List Nat := l.flatMap (fun pq => [rank pq.1, rank pq.2])

theorem runRanks_cons (pq : Phase × Phase) (l : List (Phase × Phase)) :
    runRanks (pq :: l) = rank pq.1 :: rank pq.2 :: runRanks l := rfl

theorem pairwise_le_cons {a b : Nat} {l : List Nat} (hab : a ≤ b) (h : List.Pairwise (· ≤ ·) (b :: l)) :
    List.Pairwise (· ≤ ·) (a :: b :: l) :=
  List.pairwise_cons.mpr
    ⟨fun r hr => (List.mem_cons.mp hr).elim (· ▸ hab) fun hr => Nat.le_trans hab ((List.pairwise_cons.mp h).1 r hr), h⟩

theorem monotone_run_aux (initialSize : Nat) (er64 : Int) (ticks : List (Nat × Stats)) (p : Phase) :
    List.Pairwise (· ≤ ·) (rank p :: runRanks (runPhases initialSize er64 p ticks)) := by
  induction ticks generalizing p with
  | nil => exact List.pairwise_singleton ..
  | cons t rest ih =>
    exact pairwise_le_cons (Nat.le_of_eq (rank_addAll p t.1).symm)
      (pairwise_le_cons (updatePhase_rank_le initialSize er64 (addAll p t.1) t.2) (ih _))

/-- along ANY run of `add_all` / `on_generation` calls, with any statistics (termination estimates jumping back and forth,
    any speed), the phase only moves Initial → Exploration → Exploitation (Initial → Exploitation allowed), never back -/
theorem phase_monotone (initialSize : Nat) (er64 : Int) (ticks : List (Nat × Stats)) (p : Phase) :
    List.Pairwise (· ≤ ·) (runRanks (runPhases initialSize er64 p ticks)) :=
  (List.pairwise_cons.mp (monotone_run_aux initialSize er64 ticks p)).2

theorem monotoneB_of_pairwise (l : List Nat) (h : List.Pairwise (· ≤ ·) l) : monotoneB l = true := by
  induction l with
  | nil => rfl
  | cons a rest ih =>
    cases rest with
    | nil => rfl
    | cons b rest' =>
      rw [List.pairwise_cons] at h
      simp only [monotoneB, Bool.and_eq_true, decide_eq_true_eq]
      exact ⟨h.1 b (List.mem_cons_self ..), ih h.2⟩

/-- the `Bool` check the driver runs on the recorded phases -/
theorem phase_monotoneB (initialSize : Nat) (er64 : Int) (ticks : List (Nat × Stats)) (p : Phase) :
    monotoneB (runRanks (runPhases initialSize er64 p ticks)) = true :=
  monotoneB_of_pairwise _ (phase_monotone initialSize er64 ticks p)

/-- a run that visits all three phases (exploration ratio 58/64, initial size 4), including a termination estimate that
    jumps BACK below the ratio after exploitation started: the phase stays -/
example : (runPhases 4 58 (.initial 0)
    [(3, ⟨0, none⟩), (2, ⟨100, none⟩), (1, ⟨500, none⟩), (1, ⟨950, none⟩), (1, ⟨10, none⟩)]).map (fun pq => rank pq.2)
    = [0, 1, 1, 2, 2] := by decide

/-- Initial → Exploitation directly (too few individuals before the exploration budget is spent) -/
example : (runPhases 16 58 (.initial 0) [(3, ⟨0, none⟩), (2, ⟨1000, none⟩)]).map (fun pq => rank pq.2) = [0, 2] := by decide

/-- a slow speed shrinks the exploration budget: 58/64 · 4/16 ⇒ exploitation already at te = 300/1024 -/
example : updatePhase 4 58 .exploration ⟨300, some 4⟩ = .exploitation ∧ updatePhase 4 58 .exploration ⟨300, none⟩ = .exploration := by
  decide

/-- **C19, map part (`_partial`)**: the map `Network::new` builds, followed by ANY sequence of `store_batch` / `smooth` /
    `compact` calls with ANY outcome of the float-dependent decisions, satisfies the executable well-formedness
    specification `wfB` (coordinates unique — as keys and as `node.coordinate` —, key = node.coordinate, every node holds
    at most `node_size` items and has weights of the input dimension) -/
theorem map_well_formed_partial (dataSize nodeSize dim n g : Nat) (held : Coord → Nat) (rounds : List (List Hit)) (hg : 0 < g)
    (ops : List Op) :
    wfB nodeSize dim (ops.foldl (applyOp nodeSize dim) (newNetwork dataSize nodeSize dim n g held rounds)) = true := by
  obtain ⟨h1, h2⟩ := wf_newNetwork dataSize nodeSize dim n g held rounds hg
  exact (wfB_iff nodeSize dim _).mpr (wf_run nodeSize dim ops _ h1 h2)

/-- a run in which the map grows (the unit at the corner (0,0) of the initial 2×2 grid exceeds its error budget: its two
    absent main-direction neighbours are added) and is then compacted -/
example :
    let net0 := newNetwork 10 2 3 4 2 (fun _ => 5) []
    let net1 := applyOp 2 3 net0 (.store [⟨(0, 0), true, 3⟩, ⟨(1, 1), false, 1⟩])
    sameSetB (keys net0) [(0, 0), (1, 0), (0, 1), (1, 1)] = true ∧
    sameSetB (keys net1) [(0, 0), (1, 0), (0, 1), (1, 1), (-1, 0), (0, -1)] = true ∧
    find net1 (0, 0) = some ⟨(0, 0), 2, 3⟩ ∧ find net1 (-1, 0) = some ⟨(-1, 0), 0, 3⟩ ∧ find net1 (2, 2) = none ∧
    wfB 2 3 net1 = true ∧
    (applyOp 2 3 net1 (.compact [])).length = 6 := by decide +kernel

/-- the hypotheses of `contract_keys_perm_spec` are met by a concrete map -/
example : WF grid53 ∧ grid53 ≠ [] ∧ InRange (keys grid53) := by
  refine ⟨(wf_of_wfB 1 2 grid53 (by decide +kernel)).1, by decide, ?_⟩
  unfold InRange
  decide +kernel

end C19
