import VrpModel.C17
namespace C17

theorem nodupB_iff (l : List Nat) : nodupB l = true ↔ l.Nodup := by
  induction l with
  | nil => simp [nodupB]
  | cons x xs ih => simp [nodupB, ih]

theorem nodup_concat {α : Type} {l : List α} {a : α} : (l ++ [a]).Nodup ↔ a ∉ l ∧ l.Nodup := by
  rw [(List.perm_append_singleton a l).nodup_iff, List.nodup_cons]

/-- the shape of the executable "same multiset" checks: equal length, equal counts on the second list, and every
    element of the first list occurs in the second -/
theorem perm_checks_iff {α : Type} [BEq α] [LawfulBEq α] {l₁ l₂ : List α} :
    ((l₁.length = l₂.length ∧ ∀ x ∈ l₂, l₁.count x = l₂.count x) ∧ ∀ x ∈ l₁, x ∈ l₂) ↔ l₁.Perm l₂ := by
  refine ⟨fun ⟨⟨_, hcount⟩, hsub⟩ => List.perm_iff_count.mpr fun x => ?_,
    fun h => ⟨⟨h.length_eq, fun x _ => h.count_eq x⟩, fun x hx => h.subset hx⟩⟩
  by_cases hx : x ∈ l₂
  · exact hcount x hx
  · rw [List.count_eq_zero.mpr hx, List.count_eq_zero.mpr fun hm => hx (hsub x hm)]

/-! The `HashMap`s of the code are association lists with one entry per key; `insert` and `entry(k)` rewrite the
    entries with key `k` in place or append one. -/

theorem eq_of_fst_eq {β : Type} {l : List (Nat × β)} (hnd : (l.map (·.1)).Nodup) {a b : Nat × β} (ha : a ∈ l)
    (hb : b ∈ l) (h : a.1 = b.1) : a = b := by
  induction l with
  | nil => cases ha
  | cons x xs ih =>
    obtain ⟨hx, hxs⟩ := List.nodup_cons.mp hnd
    have hne : ∀ y ∈ xs, y.1 ≠ x.1 := fun y hy e => hx (List.mem_map.mpr ⟨y, hy, e⟩)
    rcases List.mem_cons.mp ha with ha | ha <;> rcases List.mem_cons.mp hb with hb | hb
    · rw [ha, hb]
    · exact absurd (ha ▸ h).symm (hne b hb)
    · exact absurd (hb ▸ h) (hne a ha)
    · exact ih hxs ha hb

theorem any_fst_eq {β : Type} (k : Nat) (l : List (Nat × β)) :
    l.any (fun kv => kv.1 == k) = true ↔ k ∈ l.map (·.1) := by
  simp only [List.any_eq_true, beq_iff_eq, List.mem_map]

theorem map_fst_upsert {β : Type} (k : Nat) (g : Nat × β → Nat × β) (hg : ∀ kv, kv.1 = k → (g kv).1 = k)
    (new : Nat × β) (hnew : new.1 = k) (l : List (Nat × β)) :
    (if l.any (fun kv => kv.1 == k) then l.map (fun kv => if kv.1 == k then g kv else kv) else l ++ [new]).map (·.1) =
      if k ∈ l.map (·.1) then l.map (·.1) else l.map (·.1) ++ [k] := by
  by_cases h : k ∈ l.map (·.1)
  · rw [if_pos ((any_fst_eq k l).mpr h), if_pos h, List.map_map]
    refine List.map_congr_left fun kv _ => ?_
    show (if kv.1 == k then g kv else kv).1 = kv.1
    split
    · rename_i e
      rw [hg kv (beq_iff_eq.mp e), beq_iff_eq.mp e]
    · rfl
  · rw [if_neg (mt (any_fst_eq k l).mp h), if_neg h, List.map_append, List.map_singleton, hnew]

end C17
