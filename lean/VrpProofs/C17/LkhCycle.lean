import VrpProofs.C17.Lkh
/-!
# C17 / LKH — degree-preserving moves

When no node has more than two incident edges in `tour edges − broken + joined` (and there are no loops), the closing
leg of a tour accepted by `try_path` is an edge of that set; with `|set| = n` the closed tour uses exactly the set, which
is the hypothesis of `cost_accounting`.
-/
namespace C17.Lkh

theorem keys_smInsert (m : SuccMap) (k v : Nat) :
    (smInsert m k v).map (·.1) = if k ∈ m.map (·.1) then m.map (·.1) else m.map (·.1) ++ [k] :=
  map_fst_upsert k (fun _ => (k, v)) (fun _ _ => rfl) (k, v) rfl m

theorem smGet_of_key (m : SuccMap) (k : Nat) (h : k ∈ m.map (·.1)) : ∃ v, smGet m k = some v := by
  have : (m.find? (fun kv => kv.1 == k)).isSome = true :=
    List.find?_isSome.mpr (List.any_eq_true.mp ((any_fst_eq k m).mpr h))
  obtain ⟨kv, hkv⟩ := Option.isSome_iff_exists.mp this
  exact ⟨kv.2, by rw [smGet, hkv]; rfl⟩

/-- invariant of the walk over the (duplicate-free, normalised) edge list `E` -/
structure WInv (E : List Edge) (P : List Nat) (es : List Edge) (node : Nat) (m : SuccMap) : Prop where
  sub : es ⊆ E
  esNodup : es.Nodup
  nodeIn : node ∈ P
  keys : (m.map (·.1)).Nodup
  keysIn : ∀ k ∈ m.map (·.1), k ∈ P
  used : ∀ kv ∈ m, mkEdge kv.1 kv.2 ∉ es
  inj : ∀ kv ∈ m, ∀ kv' ∈ m, mkEdge kv.1 kv.2 = mkEdge kv'.1 kv'.2 → kv = kv'

theorem walk_inv (E : List Edge) (P : List Nat) (hnorm : ∀ e ∈ E, e.1 ≤ e.2) (hends : ∀ e ∈ E, e.1 ∈ P ∧ e.2 ∈ P) :
    ∀ (fuel : Nat) (es : List Edge) (node : Nat) (m : SuccMap), WInv E P es node m →
    ∃ es' node', WInv E P es' node' (walk fuel es node m) := by
  intro fuel
  induction fuel with
  | zero => intro es node m I; exact ⟨es, node, I⟩
  | succ f ih =>
    intro es node m I
    rw [walk]
    split
    · exact ⟨es, node, I⟩
    · rename_i e he
      have hee : e ∈ es := List.mem_of_find?_eq_some he
      have hmk : mkEdge node (other node e) = e := mkEdge_other node e (hnorm e (I.sub hee)) (List.find?_some he)
      have hgone : e ∉ es.erase e := fun hm => ((List.Nodup.mem_erase_iff I.esNodup).mp hm).1 rfl
      have hnew : ∀ kv ∈ smInsert m node (other node e), kv ∈ m ∨ kv = (node, other node e) := mem_smInsert m _ _
      have hfresh : ∀ kv ∈ m, mkEdge kv.1 kv.2 ≠ e := fun kv hkv h => I.used kv hkv (h ▸ hee)
      refine ih _ _ _ ⟨fun x hx => I.sub (List.erase_subset hx), I.esNodup.erase e, ?_, ?_, ?_, ?_, ?_⟩
      · rcases other_mem node e with h | h <;> rw [h]
        · exact (hends e (I.sub hee)).1
        · exact (hends e (I.sub hee)).2
      · rw [keys_smInsert]
        split
        · exact I.keys
        · exact nodup_concat.mpr ⟨‹_›, I.keys⟩
      · rw [keys_smInsert]
        split
        · exact I.keysIn
        · intro k hk
          rcases List.mem_append.mp hk with hk | hk
          · exact I.keysIn k hk
          · rw [List.mem_singleton.mp hk]; exact I.nodeIn
      · intro kv hkv
        rcases hnew kv hkv with h | rfl
        · exact fun hx => I.used kv h (List.erase_subset hx)
        · rw [hmk]; exact hgone
      · intro kv hkv kv' hkv' heq
        rcases hnew kv hkv with h | rfl <;> rcases hnew kv' hkv' with h' | rfl
        · exact I.inj kv h kv' h' heq
        · exact absurd (heq.trans hmk) (hfresh kv h)
        · exact absurd (heq.symm.trans hmk) (hfresh kv' h')
        · rfl

theorem follow_stop (m : SuccMap) : ∀ (fuel node : Nat) (acc : List Nat), acc.getLast? = some node →
    (follow m fuel node acc).length < acc.length + fuel →
    ∃ l, (follow m fuel node acc).getLast? = some l ∧
      (smGet m l = none ∨ ∃ w, smGet m l = some w ∧ w ∈ follow m fuel node acc) := by
  intro fuel
  induction fuel with
  | zero => intro node acc _ h; exact absurd h (Nat.lt_irrefl _)
  | succ f ih =>
    intro node acc hl
    rw [follow]
    split
    · exact fun _ => ⟨node, hl, Or.inl ‹_›⟩
    · rename_i next hg
      split
      · exact fun _ => ⟨node, hl, Or.inr ⟨next, hg, List.contains_iff_mem.mp ‹_›⟩⟩
      · exact fun h => ih next (acc ++ [next]) List.getLast?_concat
          (by rw [List.length_append, List.length_singleton, Nat.add_assoc, Nat.add_comm 1 f]; exact h)

theorem follow_closes (m : SuccMap) (n start : Nat) (hlen : (follow m n start [start]).length = n)
    (hkeys : ∀ x ∈ follow m n start [start], ∃ v, smGet m x = some v) {l : Nat}
    (hl : (follow m n start [start]).getLast? = some l) : ∃ w, smGet m l = some w ∧ w ∈ follow m n start [start] := by
  obtain ⟨l', hl', hstop⟩ := follow_stop m n start [start] rfl
    (by rw [hlen, List.length_singleton]; exact Nat.lt_add_of_pos_left Nat.one_pos)
  rw [hl] at hl'
  cases hl'
  rcases hstop with h0 | h1
  · obtain ⟨v, hv⟩ := hkeys l (List.mem_of_getLast? hl)
    rw [hv] at h0; cases h0
  · exact h1

theorem windows2_mid (a b : Nat) (t : List Nat) : ∀ s : List Nat, (a, b) ∈ windows2 (s ++ a :: b :: t)
  | [] => List.mem_cons_self
  | [_] => List.mem_cons_of_mem _ (windows2_mid a b t [])
  | _ :: y :: s => List.mem_cons_of_mem _ (windows2_mid a b t (y :: s))

theorem windows2_around {q : List Nat} (hnd : q.Nodup) {w f l : Nat} (hw : w ∈ q) (hf : q.head? = some f)
    (hl : q.getLast? = some l) (hwf : w ≠ f) (hwl : w ≠ l) :
    ∃ a b, (a, w) ∈ windows2 q ∧ (w, b) ∈ windows2 q ∧ a ≠ w ∧ a ≠ b ∧ w ≠ b ∧ a ≠ l := by
  obtain ⟨s, t, rfl⟩ := List.append_of_mem hw
  rcases List.eq_nil_or_concat s with rfl | ⟨s, a, rfl⟩
  · cases hf; exact absurd rfl hwf
  cases t with
  | nil => rw [List.getLast?_concat] at hl; cases hl; exact absurd rfl hwl
  | cons b t =>
    rw [List.concat_eq_append] at hnd hl ⊢
    have hlt : l ∈ b :: t := by
      rw [List.getLast?_append, List.getLast?_cons_cons, List.getLast?_eq_some_getLast (List.cons_ne_nil b t),
        Option.some_or] at hl
      cases hl; exact List.getLast_mem _
    obtain ⟨_, hwbt, hdis⟩ := List.nodup_append.mp hnd
    have ha : ∀ y ∈ w :: b :: t, a ≠ y := hdis a (List.mem_append_right _ (List.mem_singleton_self a))
    exact ⟨a, b, List.append_assoc s _ _ ▸ windows2_mid a w (b :: t) s, windows2_mid w b t (s ++ [a]),
      ha w List.mem_cons_self, ha b (List.mem_cons_of_mem _ List.mem_cons_self),
      fun h => (List.nodup_cons.mp hwbt).1 (h ▸ List.mem_cons_self), ha l (List.mem_cons_of_mem _ hlt)⟩

theorem three_le_of_distinct {α : Type} (l : List α) (a b c : α) (ha : a ∈ l) (hb : b ∈ l) (hc : c ∈ l)
    (hab : a ≠ b) (hac : a ≠ c) (hbc : b ≠ c) : 3 ≤ l.length := by
  have hnd : [a, b, c].Nodup := by simp [hab, hac, hbc]
  have hsub : [a, b, c] ⊆ l := by
    intro x hx; simp at hx; rcases hx with rfl | rfl | rfl <;> assumption
  exact (List.subperm_of_subset hnd hsub).length_le

theorem touches_mkEdge_left (a b : Nat) : touches a (mkEdge a b) = true := by
  rcases mkEdge_cases a b with h | h <;> simp [touches, h]

theorem touches_mkEdge_right (a b : Nat) : touches b (mkEdge a b) = true := by
  rw [mkEdge_comm]; exact touches_mkEdge_left b a

/-- **C17 (LKH)**: if no node has more than two incident edges in the surgered set (and the set has no loops),
    the closing leg of a tour accepted by `try_path` is an edge of the set: the walk went round one cycle that
    visits every node. -/
theorem tryPath_closes (path : List Nat) (bs js : List Edge) (q : List Nat)
    (hn : ∀ e ∈ js, e.1 ≤ e.2) (hj : ∀ e ∈ js, e.1 ∈ path ∧ e.2 ∈ path)
    (hdeg : degOk path (surgery path bs js) = true) (h : tryPath path bs js = some q) :
    ∀ l f, q.getLast? = some l → q.head? = some f → mkEdge l f ∈ surgery path bs js := by
  obtain ⟨start, hs, hq, hlen, hmlen⟩ := tryPath_some h
  obtain ⟨hperm, hhead⟩ := tryPath_perm_start path bs js q hj h
  have hnd : q.Nodup := tryPath_nodup h
  simp only [degOk, Bool.and_eq_true, List.all_eq_true, decide_eq_true_eq] at hdeg
  obtain ⟨hloop, hdeg2⟩ := hdeg
  obtain ⟨es', node', W⟩ := walk_inv (surgery path bs js) path (surgery_le hn) (surgery_ends hj)
    (surgery path bs js).length (surgery path bs js) start []
    ⟨fun _ hx => hx, nodup_mkSet _, List.mem_of_head? hs, List.nodup_nil, fun _ h => (nomatch h),
      fun _ h => (nomatch h), fun _ h => (nomatch h)⟩
  have hentry := walk_edge (surgery path bs js) (surgery_le hn) (surgery path bs js).length start
  generalize walk (surgery path bs js).length (surgery path bs js) start [] = m at hq hmlen W hentry
  have hkeysAll : ∀ x ∈ path, x ∈ m.map (·.1) :=
    fun x hx => ((List.subperm_of_subset W.keys W.keysIn).perm_of_length_le
      (Nat.le_of_eq (by rw [List.length_map, hmlen]))).mem_iff.mpr hx
  have hlegs : ∀ ab ∈ windows2 q, smGet m ab.1 = some ab.2 := by
    rw [hq]; exact (follow_spec m path.length start).2.2.1
  intro l f hl hf
  obtain ⟨w, hgw, hwq⟩ : ∃ w, smGet m l = some w ∧ w ∈ q := by
    subst hq
    exact follow_closes m path.length start hlen
      (fun x hx => smGet_of_key m x (hkeysAll x (hperm.mem_iff.mp hx))) hl
  have he3 : mkEdge l w ∈ surgery path bs js := hentry l w hgw
  by_cases hwf : w = f
  · exact hwf ▸ he3
  exfalso
  -- an entry `l ↦ l` would have been recorded from the loop `(l, l)`, which `degOk` excludes
  have hwl : w ≠ l := by
    rintro rfl
    have := hloop _ he3
    rw [mkEdge, if_neg (Nat.lt_irrefl w)] at this
    exact Nat.lt_irrefl w this
  -- `w` has a predecessor `a` and a successor `b` on the tour: three different edges meet at `w`
  obtain ⟨a, b, hwa, hwb, haw, hab, hwb', hal⟩ := windows2_around hnd hwq hf hl hwf hwl
  have he1 : mkEdge a w ∈ surgery path bs js := hentry a w (hlegs _ hwa)
  have he2 : mkEdge w b ∈ surgery path bs js := hentry w b (hlegs _ hwb)
  have h12 : mkEdge a w ≠ mkEdge w b := fun he =>
    (mkEdge_eq _ _ _ _ he).elim (fun h => haw h.1) (fun h => hab h.1)
  have h13 : mkEdge a w ≠ mkEdge l w := fun he =>
    (mkEdge_eq _ _ _ _ he).elim (fun h => hal h.1) (fun h => haw h.1)
  have h23 : mkEdge w b ≠ mkEdge l w := by
    intro he
    -- then `b = l`, and the entries `w ↦ l`, `l ↦ w` would have been recorded from the same edge
    obtain rfl : b = l := (mkEdge_eq _ _ _ _ he).elim (fun h => absurd h.1 hwl) (fun h => h.2)
    have := W.inj (w, b) (smGet_mem m w b (hlegs _ hwb)) (b, w) (smGet_mem m b w hgw) (mkEdge_comm w b)
    exact hwl (Prod.mk.inj this).1
  have := three_le_of_distinct ((surgery path bs js).filter (touches w)) (mkEdge a w) (mkEdge w b) (mkEdge l w)
    (List.mem_filter.mpr ⟨he1, touches_mkEdge_right a w⟩)
    (List.mem_filter.mpr ⟨he2, touches_mkEdge_left w b⟩)
    (List.mem_filter.mpr ⟨he3, touches_mkEdge_right l w⟩) h12 h13 h23
  exact absurd (Nat.le_trans this (hdeg2 w (hperm.mem_iff.mp hwq))) (Nat.not_succ_le_self 2)

/-- an accepted degree-preserving move with exactly `n` edges uses exactly the surgered edge set — so
    `cost_accounting` applies to it without further assumptions on the rebuilt tour -/
theorem tryPath_degOk_usesExactly (path : List Nat) (bs js : List Edge) (q : List Nat)
    (hn : ∀ e ∈ js, e.1 ≤ e.2) (hj : ∀ e ∈ js, e.1 ∈ path ∧ e.2 ∈ path) (h3 : 3 ≤ path.length)
    (hcard : (surgery path bs js).length = path.length)
    (hdeg : degOk path (surgery path bs js) = true) (h : tryPath path bs js = some q) :
    usesExactly q (surgery path bs js) = true :=
  tryPath_usesExactly path bs js q hn h h3 hcard (tryPath_closes path bs js q hn hj hdeg h)

/-- what `KOpt::improve` returns, stated without reference to the shape of the rebuilt tour: `q` is the
    `try_path` result for a move on the tour `p` that breaks tour edges, joins the same number of new edges
    between tour nodes so that every node keeps at most two incident edges (the alternating chain
    `t1 -x1- t2 -y1- t3 … -yk- t1`), with strictly positive exact gain -/
def ImprovesMove (c : Nat → Nat → Int) (p q : List Nat) : Prop :=
  ∃ bs js, tryPath p bs js = some q ∧ bs.Nodup ∧ js.Nodup ∧ (∀ e ∈ js, e.1 ≤ e.2) ∧
    (∀ e ∈ js, e.1 ∈ p ∧ e.2 ∈ p) ∧ moveOk p bs js = true ∧ (surgery p bs js).length = p.length ∧
    degOk p (surgery p bs js) = true ∧ edgeSum c js < edgeSum c bs

theorem improvesMove_improves (c : Nat → Nat → Int) (p q : List Nat) (h : ImprovesMove c p q) : Improves c p q := by
  obtain ⟨bs, js, ht, hbs, hjs, hn, hj, hmove, hcard, hdeg, hgain⟩ := h
  exact ⟨bs, js, ht, hbs, hjs, hj, hmove,
    tryPath_degOk_usesExactly p bs js q hn hj ((moveOk_iff p bs js).mp hmove).1 hcard hdeg ht, hgain⟩

theorem optimize_cost_nonincreasing_moves (c : Nat → Nat → Int) (hsym : ∀ i j, c i j = c j i)
    (improve : List Nat → Option (List Nat))
    (hc : ∀ p q, p.Nodup → improve p = some q → ImprovesMove c p q)
    (fuel : Nat) (p q : List Nat) (hnd : p.Nodup) (h : optimize improve fuel p = some q) :
    q.Perm p ∧ q.head? = p.head? ∧ closedCost c q ≤ closedCost c p ∧ improve q = none :=
  optimize_cost_nonincreasing c hsym improve
    (fun p q hp hq => improvesMove_improves c p q (hc p q hp hq)) fuel p q hnd h

theorem optimize_terminates_moves (c : Nat → Nat → Int) (hsym : ∀ i j, c i j = c j i) (lb : Int)
    (hlb : ∀ i j, lb ≤ c i j) (improve : List Nat → Option (List Nat))
    (hc : ∀ p q, p.Nodup → improve p = some q → ImprovesMove c p q) (p : List Nat) (hnd : p.Nodup) :
    ∃ N, ∀ fuel, N ≤ fuel → ∃ q, optimize improve fuel p = some q :=
  optimize_terminates c hsym lb hlb improve
    (fun p q hp hq => improvesMove_improves c p q (hc p q hp hq)) p hnd

def ringC (i j : Nat) : Int := min ((i : Int) - j).natAbs (4 - ((i : Int) - j).natAbs)

/-- non-vacuity of the contract: the 2-opt move `[0,2,1,3] → [0,1,2,3]` (broken `(0,2),(1,3)` cost 2+2, joined
    `(0,1),(2,3)` cost 1+1: gain 2) meets `ImprovesMove` -/
example : ImprovesMove ringC [0, 2, 1, 3] [0, 1, 2, 3] :=
  ⟨[(0, 2), (1, 3)], [(0, 1), (2, 3)], by decide +kernel⟩

def exImprove (p : List Nat) : Option (List Nat) := if p = [0, 2, 1, 3] then some [0, 1, 2, 3] else none

example : optimize exImprove 5 [0, 2, 1, 3] = some [0, 1, 2, 3] ∧
    closedCost ringC [0, 1, 2, 3] = 4 ∧ closedCost ringC [0, 2, 1, 3] = 6 := by decide +kernel

/-- the 3-opt move of the repository's unit test is degree preserving -/
example : degOk [0, 3, 2, 4, 5, 1] (surgery [0, 3, 2, 4, 5, 1] [(0, 3), (2, 4), (1, 5)] [(0, 5), (3, 4), (1, 2)]) = true ∧
    tryPath [0, 3, 2, 4, 5, 1] [(0, 3), (2, 4), (1, 5)] [(0, 5), (3, 4), (1, 2)] = some [0, 1, 2, 3, 4, 5] := by decide +kernel

end C17.Lkh
