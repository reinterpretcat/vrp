import VrpProofs.C17.Lkh
import Mathlib.Data.List.Permutation
/-!
# C17 (LKH) — termination of the improvement loop without any assumption on the gains

`KOpt::optimize` (vrp-core `algorithms/lkh/kopt.rs`) keeps the set `accepted` of the tours it has accepted and stops at the
first repetition: `optimizeV`. `Lkh.optimize` is the same loop without the set (the loop /repo had before repair S50);
its termination needs "every accepted tour is strictly cheaper", which holds for exact costs only: with f64 costs the gain
is a rounded running sum, a zero-gain swap and its inverse can both look positive, and the loop without the set alternates
between two tours for ever. `optimizeV` terminates for ANY `improve` that returns permutations of its argument
(`Lkh.tryPath_perm_start` gives that for `try_path` results whose joined edges connect nodes of the tour).
-/
namespace C17.LkhVisited

/-- MODEL of `KOpt::optimize`: `seen` lists the `BTreeSet` `accepted`; the code starts from `accepted = {path}`, i.e.
    `optimizeV improve fuel [p] p` -/
def optimizeV (improve : List Nat → Option (List Nat)) : Nat → List (List Nat) → List Nat → Option (List Nat)
  | 0, _, _ => none
  | fuel + 1, seen, p =>
    match improve p with
    | none => some p
    | some q => if q ∈ seen then some p else optimizeV improve fuel (q :: seen) q

theorem optimizeV_terminates_aux (improve : List Nat → Option (List Nat)) (p0 : List Nat)
    (hperm : ∀ a b, improve a = some b → b.Perm a) :
    ∀ (k fuel : Nat) (seen : List (List Nat)) (cur : List Nat), seen.Nodup → (∀ s ∈ seen, s ∈ p0.permutations) →
      cur.Perm p0 → p0.permutations.length < seen.length + k → k ≤ fuel →
      ∃ q, optimizeV improve fuel seen cur = some q := by
  intro k
  induction k with
  | zero =>
    -- pigeonhole: the accepted tours are pairwise different permutations of `p0`
    intro fuel seen cur hnd hsub _ hN
    have := (List.subperm_of_subset hnd hsub).length_le
    omega
  | succ k ih =>
    intro fuel seen cur hnd hsub hcur hN hf
    obtain ⟨f, rfl⟩ := Nat.exists_eq_add_one_of_ne_zero (Nat.ne_zero_of_lt hf)
    rw [optimizeV]
    split
    · exact ⟨cur, rfl⟩
    · rename_i q hi
      split
      · exact ⟨cur, rfl⟩
      · rename_i hq
        have hqcur : q.Perm p0 := (hperm cur q hi).trans hcur
        refine ih f (q :: seen) q (List.nodup_cons.mpr ⟨hq, hnd⟩) (fun s hs => ?_) hqcur
          (by rw [List.length_cons]; omega) (Nat.le_of_succ_le_succ hf)
        rcases List.mem_cons.mp hs with rfl | hs
        · exact List.mem_permutations.mpr hqcur
        · exact hsub s hs

/-- **C17 (LKH)**: for ANY `improve` that returns permutations of its argument the loop with the accepted set stops
    after at most `p.permutations.length` (`= n!`) rounds, whatever the gains are (rounded, zero, negative) -/
theorem optimizeV_terminates (improve : List Nat → Option (List Nat)) (p : List Nat)
    (hperm : ∀ a b, improve a = some b → b.Perm a) :
    ∀ fuel, p.permutations.length + 1 ≤ fuel → ∃ q, optimizeV improve fuel [p] p = some q := by
  intro fuel hf
  refine optimizeV_terminates_aux improve p hperm (p.permutations.length + 1) fuel [p] p
    (List.nodup_cons.mpr ⟨List.not_mem_nil, List.nodup_nil⟩) (fun s hs => ?_) (.refl _)
    (by rw [List.length_singleton]; omega) hf
  rw [List.mem_singleton.mp hs]
  exact List.mem_permutations.mpr (.refl _)

theorem optimizeV_rule (improve : List Nat → Option (List Nat)) (I : List Nat → Prop) (R : List Nat → List Nat → Prop)
    (hrefl : ∀ p, R p p) (hstep : ∀ p r, I p → improve p = some r → I r ∧ ∀ q, R q r → R q p) :
    ∀ (fuel : Nat) (seen : List (List Nat)) (p q : List Nat), I p → optimizeV improve fuel seen p = some q → R q p := by
  intro fuel
  induction fuel with
  | zero => intro seen p q _ h; cases h
  | succ f ih =>
    intro seen p q hp h
    rw [optimizeV] at h
    split at h
    · cases h; exact hrefl p
    · rename_i r hr
      split at h
      · cases h; exact hrefl p
      · exact (hstep p r hp hr).2 q (ih _ r q (hstep p r hp hr).1 h)

theorem optimizeV_perm (improve : List Nat → Option (List Nat)) (hperm : ∀ a b, improve a = some b → b.Perm a) :
    ∀ (fuel : Nat) (seen : List (List Nat)) (p q : List Nat), optimizeV improve fuel seen p = some q → q.Perm p :=
  fun fuel seen p q => optimizeV_rule improve (fun _ => True) (fun q p => q.Perm p) .refl
    (fun p r _ hr => ⟨trivial, fun _ hq => hq.trans (hperm p r hr)⟩) fuel seen p q trivial

/-- for exact costs; with f64 costs the accepted "gain" is a rounded sum and the cost clause is decided by the oracle
    on the real output -/
theorem optimizeV_cost_nonincreasing (c : Nat → Nat → Int) (hsym : ∀ i j, c i j = c j i)
    (improve : List Nat → Option (List Nat))
    (hc : ∀ p q, p.Nodup → improve p = some q → Lkh.Improves c p q) :
    ∀ (fuel : Nat) (seen : List (List Nat)) (p q : List Nat), p.Nodup → optimizeV improve fuel seen p = some q →
      q.Perm p ∧ q.head? = p.head? ∧ Lkh.closedCost c q ≤ Lkh.closedCost c p := by
  refine optimizeV_rule improve List.Nodup
    (fun q p => q.Perm p ∧ q.head? = p.head? ∧ Lkh.closedCost c q ≤ Lkh.closedCost c p)
    (fun p => ⟨.refl p, rfl, Int.le_refl _⟩) fun p r hnd hr => ?_
  obtain ⟨h1, h2, h3⟩ := Lkh.improves_sound c hsym p r hnd (hc p r hnd hr)
  exact ⟨h1.nodup_iff.mpr hnd, fun q ⟨g1, g2, g3⟩ => ⟨g1.trans h1, g2.trans h2, Int.le_trans g3 (Int.le_of_lt h3)⟩⟩

/-- an `improve` that swaps two tours back and forth (both "gains" rounding-positive), the shape of defect S50 -/
def flip (p : List Nat) : Option (List Nat) :=
  if p = [0, 1, 2, 3, 4] then some [0, 1, 3, 2, 4] else if p = [0, 1, 3, 2, 4] then some [0, 1, 2, 3, 4] else none

/-- the loop without the accepted set (the same function as `Lkh.optimize`) -/
def optimizeNoMemory (improve : List Nat → Option (List Nat)) : Nat → List Nat → Option (List Nat)
  | 0, _ => none
  | fuel + 1, p => match improve p with
    | none => some p
    | some q => optimizeNoMemory improve fuel q

/-- on `flip` the loop without the set returns for no amount of fuel … -/
theorem noMemory_cycles : ∀ fuel, optimizeNoMemory flip fuel [0, 1, 2, 3, 4] = none ∧
    optimizeNoMemory flip fuel [0, 1, 3, 2, 4] = none := by
  intro fuel
  induction fuel with
  | zero => exact ⟨rfl, rfl⟩
  | succ f ih =>
    constructor
    · show optimizeNoMemory flip f [0, 1, 3, 2, 4] = none
      exact ih.2
    · show optimizeNoMemory flip f [0, 1, 2, 3, 4] = none
      exact ih.1

/-- … and the loop with the set stops in the second round -/
example : optimizeV flip 3 [[0, 1, 2, 3, 4]] [0, 1, 2, 3, 4] = some [0, 1, 3, 2, 4] := by decide +kernel

end C17.LkhVisited
