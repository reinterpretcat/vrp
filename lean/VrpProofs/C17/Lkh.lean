import VrpProofs.C17.Basic
import Batteries.Data.List.Perm
/-!
# C17 / LKH

`try_path` collects the surgered edge set, walks it into a successor map and follows the successors from the first node;
what it returns is read off the invariants of these three loops.
-/
namespace C17.Lkh

theorem insSorted_perm (e : Edge) : ∀ s : List Edge, (insSorted e s).Perm (e :: s)
  | [] => .refl _
  | x :: xs => by
    simp only [insSorted]
    split
    · exact .refl _
    · exact ((insSorted_perm e xs).cons x).trans (.swap e x xs)

theorem mem_ins (e x : Edge) (s : List Edge) : x ∈ ins e s ↔ x = e ∨ x ∈ s := by
  unfold ins
  split
  · rename_i h
    have he : e ∈ s := List.contains_iff_mem.mp h
    exact ⟨Or.inr, fun h => h.elim (fun h => h ▸ he) id⟩
  · rw [(insSorted_perm e s).mem_iff, List.mem_cons]

theorem nodup_ins (e : Edge) (s : List Edge) (h : s.Nodup) : (ins e s).Nodup := by
  unfold ins
  split
  · exact h
  · rename_i hc
    exact (insSorted_perm e s).nodup_iff.mpr (List.nodup_cons.mpr ⟨fun he => hc (List.contains_iff_mem.mpr he), h⟩)

theorem foldl_ins (es : List Edge) : ∀ acc : List Edge, acc.Nodup →
    (es.foldl (fun s e => ins e s) acc).Nodup ∧ ∀ x, x ∈ es.foldl (fun s e => ins e s) acc ↔ x ∈ acc ∨ x ∈ es := by
  induction es with
  | nil => intro acc h; exact ⟨h, fun x => by simp⟩
  | cons e es ih =>
    intro acc h
    obtain ⟨h1, h2⟩ := ih (ins e acc) (nodup_ins e acc h)
    refine ⟨h1, fun x => ?_⟩
    rw [List.foldl_cons, h2, mem_ins, List.mem_cons, or_comm (a := x = e), or_assoc]

theorem nodup_mkSet (es : List Edge) : (mkSet es).Nodup := (foldl_ins es [] List.nodup_nil).1

theorem mem_mkSet (x : Edge) (es : List Edge) : x ∈ mkSet es ↔ x ∈ es := by
  rw [mkSet, (foldl_ins es [] List.nodup_nil).2]; simp

theorem mkSet_perm (es : List Edge) (h : es.Nodup) : (mkSet es).Perm es :=
  (List.perm_ext_iff_of_nodup (nodup_mkSet es) h).mpr fun x => mem_mkSet x es

theorem mkEdge_cases (a b : Nat) : mkEdge a b = (a, b) ∨ mkEdge a b = (b, a) := by
  unfold mkEdge
  split
  · exact Or.inl rfl
  · exact Or.inr rfl

theorem mkEdge_le (a b : Nat) : (mkEdge a b).1 ≤ (mkEdge a b).2 := by
  unfold mkEdge
  split
  · exact Nat.le_of_lt ‹_›
  · exact Nat.not_lt.mp ‹_›

theorem mkEdge_comm (a b : Nat) : mkEdge a b = mkEdge b a := by
  unfold mkEdge
  rcases Nat.lt_trichotomy a b with h | rfl | h
  · rw [if_pos h, if_neg (Nat.lt_asymm h)]
  · rfl
  · rw [if_neg (Nat.lt_asymm h), if_pos h]

theorem mkEdge_eq (a b x y : Nat) (h : mkEdge a b = mkEdge x y) : (a = x ∧ b = y) ∨ (a = y ∧ b = x) := by
  rcases mkEdge_cases a b with h1 | h1 <;> rcases mkEdge_cases x y with h2 | h2 <;>
    (rw [h1, h2] at h; cases h; simp)

theorem mem_windows2 (a b : Nat) : ∀ p : List Nat, (a, b) ∈ windows2 p → a ∈ p ∧ b ∈ p.tail
  | [], h | [_], h => nomatch h
  | x :: y :: ys, h => by
    rw [windows2, List.mem_cons] at h
    rcases h with h | h
    · cases h; exact ⟨List.mem_cons_self, List.mem_cons_self⟩
    · have := mem_windows2 a b (y :: ys) h
      exact ⟨List.mem_cons_of_mem _ this.1, List.mem_of_mem_tail this.2⟩

theorem windows2_concat : ∀ (acc : List Nat) (node next : Nat), acc.getLast? = some node →
    windows2 (acc ++ [next]) = windows2 acc ++ [(node, next)]
  | [], _, _, h => nomatch h
  | [x], node, next, h => by cases h; rfl
  | x :: y :: ys, node, next, h => by
    rw [List.getLast?_cons_cons] at h
    simp only [List.cons_append, windows2]
    rw [← List.cons_append, windows2_concat (y :: ys) node next h]

theorem tourPairs_cons (a : Nat) (r : List Nat) : tourPairs (a :: r) = windows2 (a :: r ++ [a]) := by
  obtain ⟨l, hl⟩ : ∃ l, (a :: r).getLast? = some l := ⟨_, List.getLast?_eq_some_getLast (List.cons_ne_nil a r)⟩
  rw [windows2_concat _ l a hl, tourPairs, hl]; rfl

theorem mem_tourPairs (a b : Nat) (p : List Nat) (h : (a, b) ∈ tourPairs p) : a ∈ p ∧ b ∈ p := by
  cases p with
  | nil => simp [tourPairs, windows2] at h
  | cons x r =>
    rw [tourPairs_cons] at h
    obtain ⟨h1, h2⟩ := mem_windows2 a b (x :: r ++ [x]) h
    have hx : ∀ y, y ∈ [x] → y ∈ x :: r := fun y hy => List.mem_singleton.mp hy ▸ List.mem_cons_self
    exact ⟨(List.mem_append.mp h1).elim id (hx a),
      (List.mem_append.mp (show b ∈ r ++ [x] from h2)).elim (List.mem_cons_of_mem _) (hx b)⟩

theorem mem_closedEdges (e : Edge) (p : List Nat) (h : e ∈ closedEdges p) :
    e.1 ∈ p ∧ e.2 ∈ p ∧ e.1 ≤ e.2 := by
  obtain ⟨⟨a, b⟩, hab, rfl⟩ := List.mem_map.mp h
  have hm := mem_tourPairs a b p hab
  refine ⟨?_, ?_, mkEdge_le a b⟩ <;> rcases mkEdge_cases a b with h | h <;> simp only [h, hm]

theorem mem_tourEdges (e : Edge) (p : List Nat) (h : e ∈ tourEdges p) : e.1 ∈ p ∧ e.2 ∈ p ∧ e.1 ≤ e.2 :=
  mem_closedEdges e p ((mem_mkSet e _).mp h)

theorem mem_surgery (e : Edge) (p : List Nat) (bs js : List Edge) :
    e ∈ surgery p bs js ↔ (e ∈ tourEdges p ∧ e ∉ bs) ∨ e ∈ js := by
  unfold surgery
  rw [mem_mkSet, List.mem_append, List.mem_filter]
  simp

theorem surgery_ends {p : List Nat} {bs js : List Edge} (hj : ∀ e ∈ js, e.1 ∈ p ∧ e.2 ∈ p) :
    ∀ e ∈ surgery p bs js, e.1 ∈ p ∧ e.2 ∈ p :=
  fun e he => ((mem_surgery e p bs js).mp he).elim
    (fun h => ⟨(mem_tourEdges e p h.1).1, (mem_tourEdges e p h.1).2.1⟩) (hj e)

theorem surgery_le {p : List Nat} {bs js : List Edge} (hn : ∀ e ∈ js, e.1 ≤ e.2) : ∀ e ∈ surgery p bs js, e.1 ≤ e.2 :=
  fun e he => ((mem_surgery e p bs js).mp he).elim (fun h => (mem_tourEdges e p h.1).2.2) (hn e)

theorem mem_smInsert (m : SuccMap) (k v : Nat) (kv : Nat × Nat) (h : kv ∈ smInsert m k v) :
    kv ∈ m ∨ kv = (k, v) := by
  unfold smInsert at h
  split at h
  · obtain ⟨x, hx, rfl⟩ := List.mem_map.mp h
    split
    · exact Or.inr rfl
    · exact Or.inl hx
  · exact (List.mem_append.mp h).imp id List.mem_singleton.mp

theorem smGet_mem (m : SuccMap) (k v : Nat) (h : smGet m k = some v) : (k, v) ∈ m := by
  obtain ⟨kv, hf, rfl⟩ := Option.map_eq_some_iff.mp h
  have hk : (kv.1 == k) = true := List.find?_some (p := fun kv : Nat × Nat => kv.1 == k) hf
  rw [← beq_iff_eq.mp hk]
  exact List.mem_of_find?_eq_some hf

theorem other_mem (n : Nat) (e : Edge) : other n e = e.1 ∨ other n e = e.2 := by
  unfold other
  split
  · exact Or.inr rfl
  · exact Or.inl rfl

theorem mkEdge_other (k : Nat) (e : Edge) (hn : e.1 ≤ e.2) (ht : touches k e = true) : mkEdge k (other k e) = e := by
  obtain ⟨x, y⟩ := e
  simp only [touches, Bool.or_eq_true, beq_iff_eq] at ht
  simp only [other, mkEdge, beq_iff_eq] at hn ⊢
  by_cases h1 : x = k
  · subst h1
    rcases Nat.lt_or_ge x y with h2 | h2
    · rw [if_pos rfl, if_pos h2]
    · rw [if_pos rfl, if_neg (Nat.not_lt.mpr h2), Nat.le_antisymm hn h2]
  · have h2 : y = k := ht.resolve_left h1
    subst h2
    rw [if_neg h1, if_neg (Nat.not_lt.mpr hn)]

def FromEdge (E : List Edge) (kv : Nat × Nat) : Prop := ∃ e ∈ E, touches kv.1 e = true ∧ kv.2 = other kv.1 e

theorem walk_entries (E : List Edge) : ∀ (fuel : Nat) (es : List Edge) (node : Nat) (m : SuccMap),
    es ⊆ E → (∀ kv ∈ m, FromEdge E kv) → ∀ kv ∈ walk fuel es node m, FromEdge E kv := by
  intro fuel
  induction fuel with
  | zero => intro es node m _ hm; exact hm
  | succ f ih =>
    intro es node m hes hm
    rw [walk]
    split
    · exact hm
    · rename_i e he
      refine ih _ _ _ (fun x hx => hes (List.erase_subset hx)) fun kv hkv => ?_
      rcases mem_smInsert _ _ _ _ hkv with h | rfl
      · exact hm kv h
      · exact ⟨e, hes (List.mem_of_find?_eq_some he), List.find?_some he, rfl⟩

theorem walk_get (E : List Edge) (fuel start k v : Nat) (h : smGet (walk fuel E start []) k = some v) :
    ∃ e ∈ E, touches k e = true ∧ v = other k e :=
  walk_entries E fuel E start [] (fun _ h => h) (fun _ h => nomatch h) (k, v) (smGet_mem _ k v h)

theorem walk_edge (E : List Edge) (hn : ∀ e ∈ E, e.1 ≤ e.2) (fuel start k v : Nat)
    (h : smGet (walk fuel E start []) k = some v) : mkEdge k v ∈ E := by
  obtain ⟨e, he, ht, rfl⟩ := walk_get E fuel start k v h
  rw [mkEdge_other k e (hn e he) ht]; exact he

theorem follow_rule (m : SuccMap) (P : List Nat → Prop)
    (hstep : ∀ acc node next, P acc → acc.getLast? = some node → smGet m node = some next → next ∉ acc →
      P (acc ++ [next])) :
    ∀ (fuel node : Nat) (acc : List Nat), acc.getLast? = some node → P acc → P (follow m fuel node acc) := by
  intro fuel
  induction fuel with
  | zero => intro node acc _ h; exact h
  | succ f ih =>
    intro node acc hl h
    rw [follow]
    split
    · exact h
    · rename_i next hn
      split
      · exact h
      · rename_i hc
        exact ih next _ List.getLast?_concat
          (hstep acc node next h hl hn fun hm => hc (List.contains_iff_mem.mpr hm))

theorem follow_spec (m : SuccMap) (fuel start : Nat) :
    (follow m fuel start [start]).Nodup ∧ (follow m fuel start [start]).head? = some start ∧
    (∀ ab ∈ windows2 (follow m fuel start [start]), smGet m ab.1 = some ab.2) ∧
    ∀ x ∈ follow m fuel start [start], x = start ∨ ∃ k, smGet m k = some x := by
  refine follow_rule m (fun acc => acc.Nodup ∧ acc.head? = some start ∧
    (∀ ab ∈ windows2 acc, smGet m ab.1 = some ab.2) ∧ ∀ x ∈ acc, x = start ∨ ∃ k, smGet m k = some x) ?_
    fuel start [start] rfl ⟨List.nodup_cons.mpr ⟨List.not_mem_nil, List.nodup_nil⟩, rfl, fun _ h => (nomatch h),
      fun x hx => Or.inl (List.mem_singleton.mp hx)⟩
  rintro acc node next ⟨h1, h2, h3, h4⟩ hl hn hc
  refine ⟨nodup_concat.mpr ⟨hc, h1⟩, by rw [List.head?_append, h2]; rfl, ?_, ?_⟩
  · rw [windows2_concat acc node next hl]
    intro ab hab
    rcases List.mem_append.mp hab with hab | hab
    · exact h3 ab hab
    · cases List.mem_singleton.mp hab; exact hn
  · intro x hx
    rcases List.mem_append.mp hx with hx | hx
    · exact h4 x hx
    · cases List.mem_singleton.mp hx; exact Or.inr ⟨node, hn⟩

theorem tryPath_some {path : List Nat} {bs js : List Edge} {q : List Nat} (h : tryPath path bs js = some q) :
    ∃ start, path.head? = some start ∧
      q = follow (walk (surgery path bs js).length (surgery path bs js) start []) path.length start [start] ∧
      q.length = path.length ∧
      (walk (surgery path bs js).length (surgery path bs js) start []).length = path.length := by
  unfold tryPath at h
  cases hs : path.head? with
  | none => rw [hs] at h; simp at h
  | some start =>
    rw [hs] at h
    simp only [Option.ite_none_left_eq_some, Option.ite_none_right_eq_some, Option.some.injEq, bne_iff_ne, ne_eq,
      Decidable.not_not, beq_iff_eq, Nat.not_lt] at h
    obtain ⟨_, hm, hq, rfl⟩ := h
    exact ⟨start, rfl, rfl, hq, hm⟩

theorem tryPath_nodup {path : List Nat} {bs js : List Edge} {q : List Nat} (h : tryPath path bs js = some q) :
    q.Nodup := by
  obtain ⟨start, _, rfl, _⟩ := tryPath_some h
  exact (follow_spec _ _ start).1

/-- **C17 (LKH)**: a tour rebuilt by `try_path` is a permutation of the path's nodes and starts at the path's
    first node — provided the joined edges connect nodes of the path (no hypothesis on `broken`). -/
theorem tryPath_perm_start (path : List Nat) (bs js : List Edge) (q : List Nat)
    (hj : ∀ e ∈ js, e.1 ∈ path ∧ e.2 ∈ path) (h : tryPath path bs js = some q) :
    q.Perm path ∧ q.head? = path.head? := by
  obtain ⟨start, hs, rfl, hlen, _⟩ := tryPath_some h
  obtain ⟨hnd, hhead, _, hnodes⟩ := follow_spec (walk (surgery path bs js).length (surgery path bs js) start [])
    path.length start
  refine ⟨(List.subperm_of_subset hnd fun x hx => ?_).perm_of_length_le (Nat.le_of_eq hlen.symm), hhead.trans hs.symm⟩
  rcases hnodes x hx with rfl | ⟨k, hk⟩
  · exact List.mem_of_head? hs
  · obtain ⟨e, he, _, hv⟩ := walk_get _ _ start k x hk
    have := surgery_ends hj e he
    rcases other_mem k e with h | h <;> rw [hv, h]
    · exact this.1
    · exact this.2

/-- **C17 (LKH)**: every leg of a rebuilt tour is an edge of `tour edges − broken + joined`. -/
theorem tryPath_edges_subset (path : List Nat) (bs js : List Edge) (q : List Nat)
    (hn : ∀ e ∈ js, e.1 ≤ e.2) (h : tryPath path bs js = some q) :
    ∀ ab ∈ windows2 q, mkEdge ab.1 ab.2 ∈ surgery path bs js := by
  obtain ⟨start, hs, rfl, _⟩ := tryPath_some h
  intro ab hab
  exact walk_edge _ (surgery_le hn) _ start ab.1 ab.2 ((follow_spec _ _ start).2.2.1 ab hab)

theorem windowEdges_nodup : ∀ p : List Nat, p.Nodup → ((windows2 p).map (fun pr => mkEdge pr.1 pr.2)).Nodup
  | [], _ | [_], _ => List.nodup_nil
  | a :: b :: r, hnd => by
    have ha : a ∉ b :: r := (List.nodup_cons.mp hnd).1
    rw [windows2, List.map_cons, List.nodup_cons]
    refine ⟨fun hmem => ?_, windowEdges_nodup (b :: r) (List.nodup_cons.mp hnd).2⟩
    obtain ⟨⟨x, y⟩, hxy, he⟩ := List.mem_map.mp hmem
    have hm := mem_windows2 x y (b :: r) hxy
    rcases mkEdge_eq x y a b he with ⟨h1, _⟩ | ⟨_, h1⟩
    · exact ha (h1 ▸ hm.1)
    · exact ha (h1 ▸ List.mem_of_mem_tail hm.2)

theorem closedEdges_nodup (p : List Nat) (hnd : p.Nodup) (hlen : 3 ≤ p.length) : (closedEdges p).Nodup := by
  match p, hnd, hlen with
  | a :: b :: c :: r, hnd, _ =>
    -- the legs are `(a, b)` and the legs of the duplicate-free open path `b, c, …, a`
    obtain ⟨ha, hnd'⟩ := List.nodup_cons.mp hnd
    have hb : b ∉ c :: r := (List.nodup_cons.mp hnd').1
    rw [closedEdges, tourPairs_cons, List.cons_append, List.cons_append, windows2, List.map_cons, List.nodup_cons]
    refine ⟨fun hmem => ?_, windowEdges_nodup (b :: (c :: r ++ [a])) (nodup_concat.mpr ⟨ha, hnd'⟩)⟩
    obtain ⟨⟨x, y⟩, hxy, he⟩ := List.mem_map.mp hmem
    rcases mkEdge_eq x y a b he with ⟨_, h1⟩ | ⟨h1, h2⟩
    · have := (mem_windows2 x y _ hxy).2
      rw [h1, List.tail_cons, List.mem_append, List.mem_singleton] at this
      exact this.elim hb fun h => ha (h ▸ List.mem_cons_self)
    · rw [h1, h2, List.cons_append, windows2, List.mem_cons] at hxy
      rcases hxy with hxy | hxy
      · cases hxy; exact ha (List.mem_cons_of_mem _ List.mem_cons_self)
      · have := (mem_windows2 b a _ hxy).1
        rw [← List.cons_append, List.mem_append, List.mem_singleton] at this
        exact this.elim hb fun h => ha (h ▸ List.mem_cons_self)

theorem length_windows2 : ∀ p : List Nat, (windows2 p).length = p.length - 1
  | [] | [_] => rfl
  | _ :: b :: r => by rw [windows2, List.length_cons, length_windows2 (b :: r)]; rfl

theorem length_tourPairs (p : List Nat) : (tourPairs p).length = p.length := by
  cases p with
  | nil => rfl
  | cons a r => rw [tourPairs_cons, length_windows2, List.length_append]; rfl

theorem length_closedEdges (p : List Nat) : (closedEdges p).length = p.length := by
  unfold closedEdges; rw [List.length_map, length_tourPairs]

theorem usesExactly_iff (q : List Nat) (es : List Edge) : usesExactly q es = true ↔ (closedEdges q).Perm es := by
  unfold usesExactly
  simp only [Bool.and_eq_true, beq_iff_eq, List.all_eq_true, List.contains_iff_mem]
  exact perm_checks_iff

/-- when the surgered set has exactly as many edges as the tour has nodes and also contains the closing leg
    of the rebuilt tour, the rebuilt closed tour uses exactly the surgered edge set -/
theorem tryPath_usesExactly (path : List Nat) (bs js : List Edge) (q : List Nat)
    (hn : ∀ e ∈ js, e.1 ≤ e.2) (h : tryPath path bs js = some q) (h3 : 3 ≤ path.length)
    (hcard : (surgery path bs js).length = path.length)
    (hclose : ∀ l f, q.getLast? = some l → q.head? = some f → mkEdge l f ∈ surgery path bs js) :
    usesExactly q (surgery path bs js) = true := by
  rw [usesExactly_iff]
  obtain ⟨_, _, _, hlen, _⟩ := tryPath_some h
  have hce : (closedEdges q).Nodup := closedEdges_nodup q (tryPath_nodup h) (hlen ▸ h3)
  refine (List.subperm_of_subset hce fun e he => ?_).perm_of_length_le (Nat.le_of_eq (by rw [length_closedEdges, hcard, hlen]))
  obtain ⟨ab, hab, rfl⟩ := List.mem_map.mp he
  rcases List.mem_append.mp hab with hab | hab
  · exact tryPath_edges_subset path bs js q hn h ab hab
  · split at hab
    · rename_i l f hl hf
      cases List.mem_singleton.mp hab
      exact hclose l f hl hf
    · cases hab

theorem closedCost_eq_edgeSum (c : Nat → Nat → Int) (hsym : ∀ i j, c i j = c j i) (p : List Nat) :
    closedCost c p = edgeSum c (closedEdges p) := by
  unfold closedCost edgeSum closedEdges
  rw [List.map_map]
  congr 1
  apply List.map_congr_left
  intro ab _
  show c ab.1 ab.2 = c (mkEdge ab.1 ab.2).1 (mkEdge ab.1 ab.2).2
  rcases mkEdge_cases ab.1 ab.2 with h | h <;> rw [h]
  exact hsym _ _

theorem edgeSum_perm (c : Nat → Nat → Int) {l₁ l₂ : List Edge} (h : l₁.Perm l₂) : edgeSum c l₁ = edgeSum c l₂ := by
  induction h with
  | nil => rfl
  | cons x _ ih => rw [edgeSum, List.map_cons, List.sum_cons, ← edgeSum, ih]; rfl
  | swap x y l => simp only [edgeSum, List.map_cons, List.sum_cons]; exact Int.add_left_comm _ _ _
  | trans _ _ ih₁ ih₂ => exact ih₁.trans ih₂

theorem edgeSum_append (c : Nat → Nat → Int) (l₁ l₂ : List Edge) :
    edgeSum c (l₁ ++ l₂) = edgeSum c l₁ + edgeSum c l₂ := by
  unfold edgeSum; rw [List.map_append, List.sum_append]

theorem moveOk_iff (path : List Nat) (bs js : List Edge) : moveOk path bs js = true ↔
    3 ≤ path.length ∧ (∀ e ∈ bs, e ∈ tourEdges path) ∧ ∀ e ∈ js, e ∉ tourEdges path ∨ e ∈ bs := by
  simp only [moveOk, Bool.and_eq_true, decide_eq_true_eq, List.all_eq_true, List.contains_eq_mem, Bool.or_eq_true,
    Bool.not_eq_true', decide_eq_false_iff_not, and_assoc, ge_iff_le]

/-- **C17 (LKH), exact gain accounting**: if the closed tour `q` uses exactly the surgered edge set of a k-opt
    move on the duplicate-free tour `path` (broken edges are tour edges, joined edges are new or re-join a broken
    one), then `cost q = cost path − Σ broken + Σ joined` for a symmetric cost function. -/
theorem cost_accounting (c : Nat → Nat → Int) (hsym : ∀ i j, c i j = c j i) (path q : List Nat) (bs js : List Edge)
    (hnd : path.Nodup) (hbs : bs.Nodup) (hjs : js.Nodup) (hmove : moveOk path bs js = true)
    (hex : usesExactly q (surgery path bs js) = true) :
    closedCost c q = closedCost c path - edgeSum c bs + edgeSum c js := by
  obtain ⟨h3, hbsub, hjnew⟩ := (moveOk_iff path bs js).mp hmove
  have hte : (tourEdges path).Nodup := nodup_mkSet _
  have hdisj : (((tourEdges path).filter (fun e => !bs.contains e)) ++ js).Nodup := by
    refine List.nodup_append.mpr ⟨hte.filter _, hjs, ?_⟩
    rintro a ha _ hb rfl
    simp only [List.mem_filter, Bool.not_eq_true', List.contains_eq_mem, decide_eq_false_iff_not] at ha
    exact (hjnew a hb).elim (fun h => h ha.1) ha.2
  have hbroken : ((tourEdges path).filter (fun e => bs.contains e)).Perm bs :=
    (List.perm_ext_iff_of_nodup (hte.filter _) hbs).mpr fun x => by
      rw [List.mem_filter, List.contains_iff_mem]; exact ⟨And.right, fun h => ⟨hbsub x h, h⟩⟩
  have hsplit : ((tourEdges path).filter (fun e => bs.contains e) ++
      (tourEdges path).filter (fun e => !bs.contains e)).Perm (tourEdges path) :=
    List.filter_append_perm (fun e => bs.contains e) (tourEdges path)
  have h1 : closedCost c q = edgeSum c (surgery path bs js) := by
    rw [closedCost_eq_edgeSum c hsym, edgeSum_perm c ((usesExactly_iff _ _).mp hex)]
  have h2 : closedCost c path = edgeSum c (tourEdges path) := by
    rw [closedCost_eq_edgeSum c hsym]; exact (edgeSum_perm c (mkSet_perm _ (closedEdges_nodup path hnd h3))).symm
  have hE : (surgery path bs js).Perm ((tourEdges path).filter (fun e => !bs.contains e) ++ js) := mkSet_perm _ hdisj
  -- `Σ surgered = Σ kept + Σ joined` and `Σ tour = Σ broken + Σ kept`
  rw [h1, h2, edgeSum_perm c hE, ← edgeSum_perm c hsplit, edgeSum_perm c (hbroken.append_right _),
    edgeSum_append, edgeSum_append]
  omega

/-- the contract of `KOpt::improve` (traced, not modelled): a returned path is a `try_path` result for a k-opt
    move on the current tour (broken edges are tour edges, joined edges connect tour nodes and are new), the
    rebuilt closed tour uses exactly the surgered edge set, and the exact gain `Σ broken − Σ joined` is
    strictly positive (`relink > 0` in `choose_x`). -/
def Improves (c : Nat → Nat → Int) (p q : List Nat) : Prop :=
  ∃ bs js, tryPath p bs js = some q ∧ bs.Nodup ∧ js.Nodup ∧ (∀ e ∈ js, e.1 ∈ p ∧ e.2 ∈ p) ∧
    moveOk p bs js = true ∧ usesExactly q (surgery p bs js) = true ∧ edgeSum c js < edgeSum c bs

theorem improves_sound (c : Nat → Nat → Int) (hsym : ∀ i j, c i j = c j i) (p q : List Nat) (hnd : p.Nodup)
    (h : Improves c p q) : q.Perm p ∧ q.head? = p.head? ∧ closedCost c q < closedCost c p := by
  obtain ⟨bs, js, ht, hbs, hjs, hj, hmove, hex, hgain⟩ := h
  obtain ⟨h1, h2⟩ := tryPath_perm_start p bs js q hj ht
  refine ⟨h1, h2, ?_⟩
  rw [cost_accounting c hsym p q bs js hnd hbs hjs hmove hex]
  omega

/-- **C17 (LKH)**: whatever `optimize` returns is a permutation of the start path
    with the same first node, its closed-tour cost is not above the start path's, and `improve` finds nothing
    more on it. -/
theorem optimize_cost_nonincreasing (c : Nat → Nat → Int) (hsym : ∀ i j, c i j = c j i)
    (improve : List Nat → Option (List Nat))
    (hc : ∀ p q, p.Nodup → improve p = some q → Improves c p q) :
    ∀ (fuel : Nat) (p q : List Nat), p.Nodup → optimize improve fuel p = some q →
      q.Perm p ∧ q.head? = p.head? ∧ closedCost c q ≤ closedCost c p ∧ improve q = none := by
  intro fuel
  induction fuel with
  | zero => intro p q _ h; cases h
  | succ f ih =>
    intro p q hnd h
    rw [optimize] at h
    split at h
    · cases h
      exact ⟨.refl _, rfl, Int.le_refl _, ‹_›⟩
    · rename_i r hr
      obtain ⟨h1, h2, h3⟩ := improves_sound c hsym p r hnd (hc p r hnd hr)
      obtain ⟨g1, g2, g3, g4⟩ := ih r q (h1.nodup_iff.mpr hnd) h
      exact ⟨g1.trans h1, g2.trans h2, Int.le_trans g3 (Int.le_of_lt h3), g4⟩

theorem closedCost_ge (c : Nat → Nat → Int) (lb : Int) (hlb : ∀ i j, lb ≤ c i j) (p : List Nat) :
    lb * p.length ≤ closedCost c p := by
  rw [← length_tourPairs p, closedCost]
  induction tourPairs p with
  | nil => simp
  | cons x xs ih =>
    have := hlb x.1 x.2
    rw [List.map_cons, List.sum_cons, List.length_cons, Int.natCast_succ, Int.mul_add, Int.mul_one]
    omega

/-- the measure is how far the tour's cost is above the bound `lb * n`: `k` rounds of fuel suffice when it is below `k` -/
theorem optimize_terminates_of_lt (c : Nat → Nat → Int) (hsym : ∀ i j, c i j = c j i) (lb : Int)
    (hlb : ∀ i j, lb ≤ c i j) (improve : List Nat → Option (List Nat))
    (hc : ∀ p q, p.Nodup → improve p = some q → Improves c p q) :
    ∀ (k : Nat) (p : List Nat), p.Nodup → closedCost c p - lb * p.length < k →
      ∀ fuel, k ≤ fuel → ∃ q, optimize improve fuel p = some q := by
  intro k
  induction k with
  | zero => intro p _ hk; have := closedCost_ge c lb hlb p; omega
  | succ k ih =>
    intro p hnd hk fuel hf
    obtain ⟨f, rfl⟩ := Nat.exists_eq_add_one_of_ne_zero (Nat.ne_zero_of_lt hf)
    rw [optimize]
    split
    · exact ⟨p, rfl⟩
    · rename_i r hr
      obtain ⟨h1, _, h3⟩ := improves_sound c hsym p r hnd (hc p r hnd hr)
      exact ih r (h1.nodup_iff.mpr hnd) (by rw [h1.length_eq]; omega) f (Nat.le_of_succ_le_succ hf)

/-- **C17 (LKH)**: with costs bounded below, the improvement loop stops after finitely
    many rounds (every accepted tour is strictly cheaper and all tours visit the same nodes). -/
theorem optimize_terminates (c : Nat → Nat → Int) (hsym : ∀ i j, c i j = c j i) (lb : Int)
    (hlb : ∀ i j, lb ≤ c i j) (improve : List Nat → Option (List Nat))
    (hc : ∀ p q, p.Nodup → improve p = some q → Improves c p q) (p : List Nat) (hnd : p.Nodup) :
    ∃ N, ∀ fuel, N ≤ fuel → ∃ q, optimize improve fuel p = some q :=
  ⟨(closedCost c p - lb * p.length).toNat + 1,
    optimize_terminates_of_lt c hsym lb hlb improve hc _ p hnd (by omega)⟩

/-- the theorems above for the observed entry point (edge lists of any orientation, with repetitions) -/
theorem tryPathHook_contract (path : List Nat) (broken joined : List (Nat × Nat)) (q : List Nat)
    (hj : ∀ e ∈ joined, e.1 ∈ path ∧ e.2 ∈ path) (h : tryPathHook path broken joined = some q) :
    q.Perm path ∧ q.head? = path.head? ∧
      legsIn q (surgery path (mkSet (broken.map (fun p => mkEdge p.1 p.2))) (mkSet (joined.map (fun p => mkEdge p.1 p.2)))) = true := by
  have hjs : ∀ e ∈ mkSet (joined.map (fun p => mkEdge p.1 p.2)), (e.1 ∈ path ∧ e.2 ∈ path) ∧ e.1 ≤ e.2 := by
    intro e he
    obtain ⟨p, hp, rfl⟩ := List.mem_map.mp ((mem_mkSet e _).mp he)
    refine ⟨?_, mkEdge_le _ _⟩
    rcases mkEdge_cases p.1 p.2 with h | h <;> rw [h]
    · exact hj p hp
    · exact (hj p hp).symm
  obtain ⟨h1, h2⟩ := tryPath_perm_start path _ _ q (fun e he => (hjs e he).1) h
  refine ⟨h1, h2, ?_⟩
  unfold legsIn
  simp only [List.all_eq_true, List.contains_iff_mem]
  exact tryPath_edges_subset path _ _ q (fun e he => (hjs e he).2) h

/-- the 2-opt move of the repository's unit test: `[0,2,1,3]` → `[0,1,2,3]`, cost `6 → 4` on the ring metric (`ringC` in `LkhCycle`) -/
example : tryPathHook [0, 2, 1, 3] [(0, 2), (1, 3)] [(0, 1), (2, 3)] = some [0, 1, 2, 3] := by decide +kernel

example : moveOk [0, 2, 1, 3] [(0, 2), (1, 3)] [(0, 1), (2, 3)] = true ∧
    usesExactly [0, 1, 2, 3] (surgery [0, 2, 1, 3] [(0, 2), (1, 3)] [(0, 1), (2, 3)]) = true := by decide +kernel

/-- the start node is the path's first node also when that is not node 0 (S6) -/
example : tryPathHook [2, 0, 3, 1, 4] [(2, 0), (3, 1)] [(2, 3), (0, 1)] = some [2, 3, 0, 1, 4] := by decide +kernel

/-- the rho shape: same number of edges, degrees not preserved — `try_path` answers `Some(path)` although the
    closing leg `(0,3)` is not in the surgered set; this is why `cost_accounting` needs `usesExactly` -/
example : tryPathHook [0, 1, 2, 3] [(0, 3)] [(1, 3)] = some [0, 1, 2, 3] ∧
    usesExactly [0, 1, 2, 3] (surgery [0, 1, 2, 3] [(0, 3)] [(1, 3)]) = false := by decide +kernel

/-- without the hypothesis on the joined edges a foreign node can enter the tour -/
example : tryPathHook [0, 1, 2] [(0, 1), (1, 2)] [(0, 7), (2, 7)] = some [0, 2, 7] := by decide +kernel

end C17.Lkh
