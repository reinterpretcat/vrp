import VrpModel.C17
import VrpProofs.C17.Basic
import Batteries.Data.List.Perm
/-!
# C17 / k-medoids

Every return path of `calculate` is an assignment of all points to some list of medoids, so the flat theorems are
projections of `Assigned`. The hierarchy is one pass of the scan closure per tier; with pairwise different keys a pass
concatenates one valid split (`ChildOk`) per cluster of the previous tier.
-/
namespace C17.KMed

theorem argmin_foldl (f : Nat → Int) : ∀ (l : List Nat) (init : Nat),
    l.foldl (fun best x => if f x < f best then x else best) init ∈ init :: l ∧
    ∀ x ∈ init :: l, f (l.foldl (fun best x => if f x < f best then x else best) init) ≤ f x := by
  intro l
  induction l with
  | nil => intro init; simp
  | cons y ys ih =>
    intro init
    rw [List.foldl_cons]
    split
    · rename_i hlt
      obtain ⟨h1, h2⟩ := ih y
      refine ⟨List.mem_cons_of_mem _ h1, fun x hx => ?_⟩
      rcases List.mem_cons.mp hx with rfl | hx
      · exact Int.le_trans (h2 y List.mem_cons_self) (Int.le_of_lt hlt)
      · exact h2 x hx
    · rename_i hlt
      obtain ⟨h1, h2⟩ := ih init
      refine ⟨(List.mem_cons.mp h1).elim (fun h => h.symm ▸ List.mem_cons_self)
        fun h => List.mem_cons_of_mem _ (List.mem_cons_of_mem _ h), fun x hx => ?_⟩
      rcases List.mem_cons.mp hx with rfl | hx
      · exact h2 x List.mem_cons_self
      · rcases List.mem_cons.mp hx with rfl | hx
        · exact Int.le_trans (h2 init List.mem_cons_self) (Int.not_lt.mp hlt)
        · exact h2 x (List.mem_cons_of_mem _ hx)

theorem nearest_spec (d : Nat → Nat → Int) (p : Nat) (ms : List Nat) (m : Nat) (h : nearest d p ms = some m) :
    m ∈ ms ∧ ∀ m' ∈ ms, d p m ≤ d p m' := by
  cases ms with
  | nil => cases h
  | cons a r => cases h; exact argmin_foldl (fun x => d p x) r a

theorem medoidOf_spec (d : Nat → Nat → Int) (pts : List Nat) (m : Nat) (h : medoidOf d pts = some m) :
    m ∈ pts ∧ ∀ x ∈ pts, costOf d pts m ≤ costOf d pts x := by
  cases pts with
  | nil => cases h
  | cons a r => cases h; exact argmin_foldl (fun x => costOf d (a :: r) x) r a

/-- the chosen medoid minimises the summed distance of the cluster's points to it -/
theorem medoidOf_min (d : Nat → Nat → Int) (pts : List Nat) (m : Nat) (h : medoidOf d pts = some m) :
    ∀ x ∈ pts, costOf d pts m ≤ costOf d pts x :=
  (medoidOf_spec d pts m h).2

def keysOf (cl : Clusters) : List Nat := cl.map (·.1)
def ptsOf (cl : Clusters) : List Nat := cl.flatMap (·.2)

theorem keysOf_pushTo (cl : Clusters) (m p : Nat) :
    keysOf (pushTo cl m p) = if m ∈ keysOf cl then keysOf cl else keysOf cl ++ [m] :=
  map_fst_upsert m (fun kv => (kv.1, kv.2 ++ [p])) (fun _ h => h) (m, [p]) rfl cl

theorem ptsOf_pushTo (cl : Clusters) (m p : Nat) (hnd : (keysOf cl).Nodup) :
    (ptsOf (pushTo cl m p)).Perm (ptsOf cl ++ [p]) := by
  unfold pushTo
  by_cases h : m ∈ keysOf cl
  · rw [if_pos ((any_fst_eq m cl).mpr h)]
    induction cl with
    | nil => cases h
    | cons kv rest ih =>
      obtain ⟨hk, hrest⟩ := List.nodup_cons.mp hnd
      rw [List.map_cons, ptsOf, ptsOf, List.flatMap_cons, List.flatMap_cons, List.append_assoc]
      by_cases e : kv.1 = m
      · have : rest.map (fun kv => if kv.1 == m then (kv.1, kv.2 ++ [p]) else kv) = rest.map id :=
          List.map_congr_left fun x hx =>
            if_neg fun hxm => hk (List.mem_map.mpr ⟨x, hx, (beq_iff_eq.mp hxm).trans e.symm⟩)
        rw [if_pos (beq_iff_eq.mpr e), this, List.map_id, List.append_assoc]
        exact List.perm_append_comm.append_left kv.2
      · rw [if_neg (mt beq_iff_eq.mp e)]
        exact (ih hrest ((List.mem_cons.mp h).resolve_left (Ne.symm e))).append_left kv.2
  · rw [if_neg (mt (any_fst_eq m cl).mp h), ptsOf, List.flatMap_append, List.flatMap_singleton]
    exact .refl _

theorem forall_pushTo (Q : Nat → List Nat → Prop) (cl : Clusters) (m p : Nat) (hold : ∀ kv ∈ cl, Q kv.1 kv.2)
    (hnew : Q m [p]) (happ : ∀ l, Q m l → Q m (l ++ [p])) : ∀ kv ∈ pushTo cl m p, Q kv.1 kv.2 := by
  intro kv h
  unfold pushTo at h
  split at h
  · obtain ⟨kv0, h0, rfl⟩ := List.mem_map.mp h
    split
    · rename_i e
      exact beq_iff_eq.mp e ▸ happ kv0.2 (beq_iff_eq.mp e ▸ hold kv0 h0)
    · exact hold kv0 h0
  · rcases List.mem_append.mp h with h | h
    · exact hold kv h
    · cases List.mem_singleton.mp h; exact hnew

/-- all facts about the assignment of the points `data` to `medoids`; with `data` the points handled so far it is
    the invariant of the fold -/
structure Assigned (d : Nat → Nat → Int) (data medoids : List Nat) (cl : Clusters) : Prop where
  perm : (ptsOf cl).Perm data
  keysNodup : (keysOf cl).Nodup
  nonempty : ∀ kv ∈ cl, kv.2 ≠ []
  near : ∀ kv ∈ cl, ∀ p ∈ kv.2, nearest d p medoids = some kv.1

namespace Assigned

theorem nil (d : Nat → Nat → Int) (medoids : List Nat) : Assigned d [] medoids [] :=
  ⟨.refl _, List.nodup_nil, by simp, by simp⟩

theorem push {d : Nat → Nat → Int} {done medoids : List Nat} {cl : Clusters} {p m : Nat}
    (A : Assigned d done medoids cl) (hn : nearest d p medoids = some m) :
    Assigned d (done ++ [p]) medoids (pushTo cl m p) := by
  have hQ := forall_pushTo (fun k l => l ≠ [] ∧ ∀ x ∈ l, nearest d x medoids = some k) cl m p
    (fun kv hkv => ⟨A.nonempty kv hkv, A.near kv hkv⟩)
    ⟨List.cons_ne_nil p [], fun x hx => List.mem_singleton.mp hx ▸ hn⟩
    fun l hl => ⟨List.append_ne_nil_of_left_ne_nil hl.1 _, fun x hx =>
      (List.mem_append.mp hx).elim (hl.2 x) fun hx => List.mem_singleton.mp hx ▸ hn⟩
  refine ⟨(ptsOf_pushTo cl m p A.keysNodup).trans (A.perm.append_right [p]), ?_, fun kv hkv => (hQ kv hkv).1,
    fun kv hkv => (hQ kv hkv).2⟩
  rw [keysOf_pushTo]
  split
  · exact A.keysNodup
  · exact nodup_concat.mpr ⟨‹_›, A.keysNodup⟩

end Assigned

theorem assignFrom_assigned (d : Nat → Nat → Int) (medoids : List Nat) : ∀ (rest done : List Nat) (cl cl' : Clusters),
    Assigned d done medoids cl → assignFrom d medoids cl rest = some cl' → Assigned d (done ++ rest) medoids cl' := by
  intro rest
  induction rest with
  | nil => intro done cl cl' A h; cases h; rwa [List.append_nil]
  | cons p ps ih =>
    intro done cl cl' A h
    rw [assignFrom] at h
    split at h
    · cases h
    · rename_i m hn
      have := ih (done ++ [p]) _ cl' (A.push hn) h
      rwa [List.append_assoc] at this

theorem assign_assigned (d : Nat → Nat → Int) (data medoids : List Nat) (cl : Clusters)
    (h : assign d data medoids = some cl) : Assigned d data medoids cl :=
  assignFrom_assigned d medoids data [] [] cl (Assigned.nil d medoids) h

namespace Assigned
variable {d : Nat → Nat → Int} {data medoids : List Nat} {cl : Clusters}

theorem key_mem (A : Assigned d data medoids cl) : ∀ kv ∈ cl, kv.1 ∈ medoids := by
  intro kv hkv
  obtain ⟨p, hp⟩ := List.exists_mem_of_ne_nil _ (A.nonempty kv hkv)
  exact (nearest_spec d p medoids kv.1 (A.near kv hkv p hp)).1

theorem pts_mem (A : Assigned d data medoids cl) : ∀ kv ∈ cl, ∀ p ∈ kv.2, p ∈ data := by
  intro kv hkv p hp
  exact A.perm.mem_iff.mp (List.mem_flatMap.mpr ⟨kv, hkv, hp⟩)

theorem nearest_own (A : Assigned d data medoids cl) : ∀ kv ∈ cl, ∀ p ∈ kv.2, ∀ kv' ∈ cl, d p kv.1 ≤ d p kv'.1 :=
  fun kv hkv p hp kv' hkv' => (nearest_spec d p medoids kv.1 (A.near kv hkv p hp)).2 kv'.1 (A.key_mem kv' hkv')

theorem length_le (A : Assigned d data medoids cl) : cl.length ≤ medoids.length := by
  have hsub : keysOf cl ⊆ medoids := by
    intro k hk
    obtain ⟨kv, hkv, rfl⟩ := List.mem_map.mp hk
    exact A.key_mem kv hkv
  have := (List.subperm_of_subset A.keysNodup hsub).length_le
  rwa [keysOf, List.length_map] at this

end Assigned

theorem assign_isSome (d : Nat → Nat → Int) (medoids : List Nat) (hm : medoids ≠ []) : ∀ (data : List Nat) (cl : Clusters),
    ∃ cl', assignFrom d medoids cl data = some cl' := by
  intro data
  induction data with
  | nil => intro cl; exact ⟨cl, rfl⟩
  | cons p ps ih =>
    intro cl
    obtain ⟨a, r, rfl⟩ := List.exists_cons_of_ne_nil hm
    exact ih _

theorem updateMedoids_mem {d : Nat → Nat → Int} {data ms : List Nat} {cl : Clusters} (A : Assigned d data ms cl) :
    ∀ m ∈ updateMedoids d cl, m ∈ data := by
  intro m hm
  obtain ⟨kv, hkv, hmed⟩ := List.mem_filterMap.mp hm
  exact A.pts_mem kv hkv m (medoidOf_spec d kv.2 m hmed).1

/-- where the code has `expect("cannot find medoid")` the model's `filterMap` would skip the cluster; no cluster of
    an assignment is empty, so nothing is skipped -/
theorem updateMedoids_length (d : Nat → Nat → Int) : ∀ cl : Clusters, (∀ kv ∈ cl, kv.2 ≠ []) →
    (updateMedoids d cl).length = cl.length
  | [], _ => rfl
  | kv :: rest, h => by
    obtain ⟨p, r, hv⟩ := List.exists_cons_of_ne_nil (h kv List.mem_cons_self)
    rw [updateMedoids, List.filterMap_cons, hv]
    exact congrArg (· + 1) (updateMedoids_length d rest fun kv' h' => h kv' (List.mem_cons_of_mem _ h'))

theorem calcLoop_result (d : Nat → Nat → Int) (data : List Nat) (ord : Nat → List Nat → List Nat)
    (hord : ∀ i l, (ord i l).Perm l) : ∀ (it : Nat) (ms : List Nat) (cl : Clusters), (∀ m ∈ ms, m ∈ data) →
    calcLoop d data ord it ms = some cl →
    ∃ ms', (∀ m ∈ ms', m ∈ data) ∧ ms'.length ≤ ms.length ∧ assign d data ms' = some cl := by
  intro it
  induction it with
  | zero => intro ms cl hms h; exact ⟨ms, hms, Nat.le_refl _, h⟩
  | succ it ih =>
    intro ms cl hms h
    rw [calcLoop] at h
    split at h
    · cases h
    · rename_i cl0 ha
      dsimp only at h
      split at h
      · cases h; exact ⟨ms, hms, Nat.le_refl _, ha⟩
      · have A := assign_assigned d data ms cl0 ha
        obtain ⟨ms', h1, h2, h3⟩ := ih _ cl (fun m hm => updateMedoids_mem A m ((hord it _).mem_iff.mp hm)) h
        refine ⟨ms', h1, Nat.le_trans h2 ?_, h3⟩
        rw [(hord it _).length_eq]
        exact updateMedoids_length d cl0 A.nonempty ▸ A.length_le

/-- **no panic**: with a non-empty start list of medoids the loop always returns a map:
    `expect("cannot find nearest medoid")` is never hit (for `expect("cannot find medoid")` see `updateMedoids_length`) -/
theorem calculate_no_panic (d : Nat → Nat → Int) (data : List Nat) (ord : Nat → List Nat → List Nat)
    (hord : ∀ i l, (ord i l).Perm l) (hdata : data ≠ []) : ∀ (it : Nat) (ms : List Nat), ms ≠ [] →
    ∃ cl, calcLoop d data ord it ms = some cl := by
  intro it
  induction it with
  | zero => exact fun ms hms => assign_isSome d ms hms data []
  | succ it ih =>
    intro ms hms
    obtain ⟨cl0, (ha : assign d data ms = some cl0)⟩ := assign_isSome d ms hms data []
    simp only [calcLoop, ha]
    split
    · exact ⟨cl0, rfl⟩
    · have A := assign_assigned d data ms cl0 ha
      have hcl : cl0 ≠ [] := by rintro rfl; exact hdata A.perm.symm.eq_nil
      refine ih _ fun e => hcl (List.eq_nil_of_length_eq_zero ?_)
      rw [← updateMedoids_length d cl0 A.nonempty, ← (hord it _).length_eq, e]; rfl

theorem specPartition_iff (data : List Nat) (cl : Clusters) : specPartition data cl = true ↔
    (∀ x, (ptsOf cl).count x = data.count x) ∧ (keysOf cl).Nodup ∧ ∀ kv ∈ cl, kv.2 ≠ [] := by
  unfold specPartition
  simp only [Bool.and_eq_true, beq_iff_eq, List.all_eq_true, List.contains_iff_mem, nodupB_iff,
    Bool.not_eq_true', List.isEmpty_eq_false_iff]
  rw [perm_checks_iff, List.perm_iff_count]
  exact and_assoc

theorem specNearest_iff (d : Nat → Nat → Int) (cl : Clusters) :
    specNearest d cl = true ↔ ∀ kv ∈ cl, ∀ p ∈ kv.2, ∀ kv' ∈ cl, d p kv.1 ≤ d p kv'.1 := by
  simp only [specNearest, List.all_eq_true, decide_eq_true_eq]

/-- the executable partition check is sound: it implies the counting form of "partition" -/
theorem specPartition_sound (data : List Nat) (cl : Clusters) (h : specPartition data cl = true) :
    (∀ x, (cl.flatMap (·.2)).count x = data.count x) ∧ (cl.map (·.1)).Nodup ∧ ∀ kv ∈ cl, kv.2 ≠ [] :=
  (specPartition_iff data cl).mp h

section top
variable (d : Nat → Nat → Int) (data : List Nat) (ord : Nat → List Nat → List Nat)
  (hord : ∀ i l, (ord i l).Perm l) (ms : List Nat) (hms : ∀ m ∈ ms, m ∈ data) (cl : Clusters)
  (h : createKMedoids d data (some ms) ord = some cl)

include hord hms h

theorem createKMedoids_assign : ∃ ms', (∀ m ∈ ms', m ∈ data) ∧ ms'.length ≤ ms.length ∧ Assigned d data ms' cl := by
  unfold createKMedoids at h
  by_cases he : data.isEmpty = true
  · simp only [he, if_true, Option.some.injEq] at h
    subst h
    have : data = [] := by simpa using he
    subst this
    exact ⟨[], by simp, by simp, Assigned.nil d []⟩
  · have he' : data.isEmpty = false := by simpa using he
    simp only [he', Bool.false_eq_true, if_false] at h
    obtain ⟨ms', h1, h2, h3⟩ := calcLoop_result d data ord hord 200 ms cl hms h
    exact ⟨ms', h1, h2, assign_assigned d data ms' cl h3⟩

/-- **C17 (k-medoids)**: the clusters are a partition of all points (every point occurs
    in the clusters exactly as often as in the input), with pairwise different keys and no empty cluster. -/
theorem result_is_partition :
    (∀ x, (cl.flatMap (·.2)).count x = data.count x) ∧ (cl.map (·.1)).Nodup ∧ ∀ kv ∈ cl, kv.2 ≠ [] := by
  obtain ⟨ms', _, _, A⟩ := createKMedoids_assign d data ord hord ms hms cl h
  exact ⟨A.perm.count_eq, A.keysNodup, A.nonempty⟩

/-- **C17 (k-medoids)**: no point is closer to another cluster's medoid than to its own. -/
theorem nearest_own_medoid : ∀ kv ∈ cl, ∀ p ∈ kv.2, ∀ kv' ∈ cl, d p kv.1 ≤ d p kv'.1 := by
  obtain ⟨ms', _, _, A⟩ := createKMedoids_assign d data ord hord ms hms cl h
  exact A.nearest_own

/-- **C17 (k-medoids)**: the returned map is the assignment of all points to a list of
    final medoids, which are data points; every key is one of them and is the first nearest medoid of each
    point of its cluster. -/
theorem keys_are_medoids : ∃ ms', (∀ m ∈ ms', m ∈ data) ∧ (∀ kv ∈ cl, kv.1 ∈ ms') ∧
    ∀ kv ∈ cl, ∀ p ∈ kv.2, nearest d p ms' = some kv.1 := by
  obtain ⟨ms', h1, _, A⟩ := createKMedoids_assign d data ord hord ms hms cl h
  exact ⟨ms', h1, A.key_mem, A.near⟩

/-- there are never more clusters than start medoids (`k`) -/
theorem at_most_k_clusters : cl.length ≤ ms.length := by
  obtain ⟨ms', _, h2, A⟩ := createKMedoids_assign d data ord hord ms hms cl h
  exact Nat.le_trans A.length_le h2

/-- with a proper distance table (`d x x = 0 < d x y`) every medoid lies in its own cluster -/
theorem key_in_own_cluster (hrefl : ∀ x ∈ data, d x x = 0) (hpos : ∀ x ∈ data, ∀ y ∈ data, x ≠ y → 0 < d x y) :
    ∀ kv ∈ cl, kv.1 ∈ kv.2 := by
  obtain ⟨ms', h1, _, A⟩ := createKMedoids_assign d data ord hord ms hms cl h
  intro kv hkv
  have hk : kv.1 ∈ ms' := A.key_mem kv hkv
  have hkd : kv.1 ∈ data := h1 _ hk
  -- as a data point the key lies in some cluster `kv'`, whose key is its nearest medoid: at distance `0`, itself
  obtain ⟨kv', hkv', hin⟩ := List.mem_flatMap.mp (A.perm.mem_iff.mpr hkd)
  have hn := nearest_spec d kv.1 ms' kv'.1 (A.near kv' hkv' kv.1 hin)
  have hle := hn.2 kv.1 hk
  rw [hrefl kv.1 hkd] at hle
  have heq : kv.1 = kv'.1 :=
    Decidable.byContradiction fun e => Int.not_lt.mpr hle (hpos kv.1 hkd kv'.1 (h1 _ hn.1) e)
  obtain rfl := eq_of_fst_eq A.keysNodup hkv hkv' heq
  exact hin

/-- the model's result passes the executable specification the driver evaluates on the implementation's maps -/
theorem kmedoids_meets_spec :
    specPartition data cl = true ∧ specNearest d cl = true ∧ specKeysInData data cl = true := by
  obtain ⟨ms', h1, _, A⟩ := createKMedoids_assign d data ord hord ms hms cl h
  refine ⟨(specPartition_iff data cl).mpr ⟨A.perm.count_eq, A.keysNodup, A.nonempty⟩,
    (specNearest_iff d cl).mpr A.nearest_own, ?_⟩
  · unfold specKeysInData
    simp only [List.all_eq_true, List.contains_iff_mem]
    exact fun kv hkv => h1 _ (A.key_mem kv hkv)

end top

/-- the hypotheses of the theorems above are met by the example below (`reverse` is a permutation, the start
    medoids are data points) -/
example : (∀ (i : Nat) (l : List Nat), ((fun (_ : Nat) (l : List Nat) => l.reverse) i l).Perm l) ∧
    (∀ m ∈ [2, 3], m ∈ [0, 1, 2, 3, 4, 5]) := ⟨fun _ l => List.reverse_perm l, by decide⟩

def exD (a b : Nat) : Int := ((([0, 1, 2, 10, 11, 12] : List Int).getD a 0) - (([0, 1, 2, 10, 11, 12] : List Int).getD b 0)).natAbs

/-- two groups on a line, start medoids 2 and 3, hash order reversing the medoids every round -/
example : createKMedoids exD [0, 1, 2, 3, 4, 5] (some [2, 3]) (fun _ l => l.reverse) =
    some [(1, [0, 1, 2]), (4, [3, 4, 5])] := by decide +kernel

/-! ## `create_hierarchical_kmedoids`: the per-split contract -/

/-- contract of `create_kmedoids(&data, 2, d)` used for one split (what `result_is_partition`,
    `nearest_own_medoid`, `key_in_own_cluster` give for pairwise different points and a proper distance table) -/
structure SplitOk (d : Nat → Nat → Int) (split : List Nat → Clusters) : Prop where
  ok : ∀ data : List Nat, data.Nodup → 2 ≤ data.length →
    (∀ x, (ptsOf (split data)).count x = data.count x) ∧
    (∀ kv ∈ split data, kv.1 ∈ kv.2) ∧
    (∀ kv ∈ split data, ∀ p ∈ kv.2, ∀ kv' ∈ split data, d p kv.1 ≤ d p kv'.1) ∧
    (split data).length ≤ 2

/-- INDEPENDENT SPEC of one split: `part` partitions `parent`, every medoid lies in its own cluster, and no
    point of the parent is closer to a SIBLING's medoid than to its own -/
def ChildOk (d : Nat → Nat → Int) (parent : List Nat) (part : Clusters) : Prop :=
  (∀ x, (ptsOf part).count x = parent.count x) ∧ (∀ kv ∈ part, kv.1 ∈ kv.2) ∧
    (∀ kv ∈ part, ∀ p ∈ kv.2, ∀ kv' ∈ part, d p kv.1 ≤ d p kv'.1) ∧ part.length ≤ 2

/-- the clusters one entry of `current_clusters` contributes to the tier -/
def childrenOf (split : List Nat → Clusters) (e : Option Nat × List Nat) : Clusters :=
  if e.2.length < 2 then
    match keyOf e.1 e.2 with
    | none => []
    | some key => [(key, e.2)]
  else split e.2

/-- the entries it contributes to `next_tier_clusters` -/
def nextOf (split : List Nat → Clusters) (e : Option Nat × List Nat) : List (Option Nat × List Nat) :=
  if e.2.length < 2 then
    match keyOf e.1 e.2 with
    | none => []
    | some _ => [e]
  else (split e.2).map (fun kv => (some kv.1, kv.2))

theorem cmInsert_fresh (cl : Clusters) (k : Nat) (v : List Nat) (h : k ∉ keysOf cl) :
    cmInsert cl k v = cl ++ [(k, v)] := by
  rw [cmInsert, if_neg (mt (any_fst_eq k cl).mp h)]

theorem keysOf_append (a b : Clusters) : keysOf (a ++ b) = keysOf a ++ keysOf b := List.map_append

theorem cmExtend_fresh : ∀ (new cl : Clusters), (keysOf cl ++ keysOf new).Nodup → cmExtend cl new = cl ++ new
  | [], cl, _ => (List.append_nil cl).symm
  | kv :: rest, cl, h => by
    have hk : kv.1 ∉ keysOf cl := fun hm => (List.nodup_append.mp h).2.2 kv.1 hm kv.1 List.mem_cons_self rfl
    have ih := cmExtend_fresh rest (cl ++ [(kv.1, kv.2)]) (by rw [keysOf_append, List.append_assoc]; exact h)
    rw [cmExtend, List.foldl_cons, cmInsert_fresh cl kv.1 kv.2 hk, ← cmExtend, ih, List.append_assoc]; rfl

/-- the scan closure is a fold: an entry extends the tier by its children and the next tier by its successors -/
theorem hierStep_cons (split : List Nat → Clusters) (e : Option Nat × List Nat) (rest : List (Option Nat × List Nat))
    (tier : Clusters) (next : List (Option Nat × List Nat)) :
    hierStep split (e :: rest) (tier, next) =
      hierStep split rest (cmExtend tier (childrenOf split e), next ++ nextOf split e) := by
  obtain ⟨medoid, data⟩ := e
  by_cases hs : data.length < 2
  · cases hk : keyOf medoid data
    · -- nothing is contributed: `cmExtend tier [] = tier`
      simp [hierStep, childrenOf, nextOf, hs, hk, cmExtend]
    · -- one cluster under its key: `cmExtend tier [(key, data)] = cmInsert tier key data`
      simp [hierStep, childrenOf, nextOf, hs, hk, cmExtend]
  · simp [hierStep, childrenOf, nextOf, hs]

/-- when no key is produced twice, one pass of the scan closure simply concatenates the contributions of the
    entries (the `HashMap` inserts never overwrite) -/
theorem hierStep_eq (split : List Nat → Clusters) : ∀ (cur : List (Option Nat × List Nat)) (tier : Clusters)
    (next : List (Option Nat × List Nat)), (keysOf tier ++ keysOf (cur.flatMap (childrenOf split))).Nodup →
    hierStep split cur (tier, next) = (tier ++ cur.flatMap (childrenOf split), next ++ cur.flatMap (nextOf split))
  | [], tier, next, _ => by rw [hierStep, List.flatMap_nil, List.flatMap_nil, List.append_nil, List.append_nil]
  | e :: rest, tier, next, h => by
    rw [List.flatMap_cons, keysOf_append, ← List.append_assoc] at h
    rw [hierStep_cons, cmExtend_fresh _ tier (List.nodup_append.mp h).1,
      hierStep_eq split rest _ _ (by rwa [keysOf_append]), List.flatMap_cons, List.flatMap_cons, List.append_assoc,
      List.append_assoc]

/-- state of the scan: the entries partition the points; no entry is empty; a remembered medoid lies in its data -/
structure CurOk (points : List Nat) (cur : List (Option Nat × List Nat)) : Prop where
  count : ∀ x, (cur.flatMap (·.2)).count x = points.count x
  entry : ∀ e ∈ cur, e.2 ≠ [] ∧ ∀ m, e.1 = some m → m ∈ e.2

theorem keyOf_mem (medoid : Option Nat) (data : List Nat) (hne : data ≠ []) (hm : ∀ m, medoid = some m → m ∈ data) :
    ∃ key, keyOf medoid data = some key ∧ key ∈ data := by
  cases medoid with
  | some m => exact ⟨m, rfl, hm m rfl⟩
  | none =>
    cases data with
    | nil => exact absurd rfl hne
    | cons a r => exact ⟨a, rfl, by simp⟩

theorem childrenOf_ok (d : Nat → Nat → Int) (split : List Nat → Clusters) (S : SplitOk d split)
    (e : Option Nat × List Nat) (hnd : e.2.Nodup) (hne : e.2 ≠ []) (hm : ∀ m, e.1 = some m → m ∈ e.2) :
    ChildOk d e.2 (childrenOf split e) := by
  unfold childrenOf
  by_cases hs : e.2.length < 2
  · obtain ⟨key, hk, hkm⟩ := keyOf_mem e.1 e.2 hne hm
    simp only [hs, if_true, hk]
    refine ⟨by simp [ptsOf], ?_, ?_, by simp⟩
    · intro kv hkv; simp at hkv; subst hkv; exact hkm
    · intro kv hkv p _ kv' hkv'
      simp at hkv hkv'; subst hkv; subst hkv'; exact Int.le_refl _
  · simp only [hs, if_false]
    exact S.ok e.2 hnd (Nat.not_lt.mp hs)

theorem nodup_of_count_eq {l points : List Nat} (hp : points.Nodup) (h : ∀ x, l.count x = points.count x) : l.Nodup :=
  (List.perm_iff_count.mpr h).nodup_iff.mpr hp

theorem keys_nodup_of_pts_nodup (cl : Clusters) (hnd : (ptsOf cl).Nodup) (hk : ∀ kv ∈ cl, kv.1 ∈ kv.2) :
    (keysOf cl).Nodup := by
  rw [keysOf, List.Nodup, List.pairwise_map]
  exact (List.pairwise_flatMap.mp hnd).2.imp_of_mem fun {a b} ha hb hdis => hdis a.1 (hk a ha) b.1 (hk b hb)

theorem count_children (d : Nat → Nat → Int) (split : List Nat → Clusters) (cur : List (Option Nat × List Nat))
    (h : ∀ e ∈ cur, ChildOk d e.2 (childrenOf split e)) (x : Nat) :
    (ptsOf (cur.flatMap (childrenOf split))).count x = (cur.flatMap (·.2)).count x := by
  rw [ptsOf, List.flatMap_assoc, List.count_flatMap, List.count_flatMap]
  exact congrArg List.sum (List.map_congr_left fun e he => (h e he).1 x)

theorem forall₂_map_map {α β γ : Type} {R : β → γ → Prop} (f : α → β) (g : α → γ) :
    ∀ l : List α, (∀ x ∈ l, R (f x) (g x)) → List.Forall₂ R (l.map f) (l.map g)
  | [], _ => .nil
  | x :: xs, h => .cons (h x List.mem_cons_self) (forall₂_map_map f g xs fun y hy => h y (List.mem_cons_of_mem _ hy))

/-- INDEPENDENT SPEC of a hierarchy: every tier is a partition of all points with pairwise different medoids and
    decomposes into one valid split (`ChildOk`) per cluster of the previous tier (`parents`), in order -/
def TiersOk (d : Nat → Nat → Int) (points : List Nat) : List (List Nat) → List Clusters → Prop
  | _, [] => True
  | parents, tier :: rest =>
    (∃ parts : List Clusters, tier = parts.flatten ∧ List.Forall₂ (ChildOk d) parents parts) ∧
    (∀ x, (ptsOf tier).count x = points.count x) ∧ (keysOf tier).Nodup ∧
    TiersOk d points (tier.map (·.2)) rest

theorem map_snd_children (split : List Nat → Clusters) (cur : List (Option Nat × List Nat)) :
    (cur.flatMap (childrenOf split)).map (·.2) = (cur.flatMap (nextOf split)).map (·.2) := by
  rw [List.map_flatMap, List.map_flatMap]
  congr 1; funext e
  unfold childrenOf nextOf
  split
  · split <;> rfl
  · rw [List.map_map]; rfl

theorem curOk_next (d : Nat → Nat → Int) (split : List Nat → Clusters) (points : List Nat)
    (cur : List (Option Nat × List Nat)) (C : CurOk points cur)
    (hch : ∀ e ∈ cur, ChildOk d e.2 (childrenOf split e)) : CurOk points (cur.flatMap (nextOf split)) := by
  constructor
  · intro x
    rw [List.flatMap_def, ← map_snd_children, ← List.flatMap_def]
    exact (count_children d split cur hch x).trans (C.count x)
  · intro e' he'
    obtain ⟨e, he, hin⟩ := List.mem_flatMap.mp he'
    have hc := hch e he
    by_cases hs : e.2.length < 2
    · rw [nextOf, if_pos hs] at hin
      split at hin
      · cases hin
      · cases List.mem_singleton.mp hin; exact C.entry _ he
    · rw [nextOf, if_neg hs] at hin
      rw [childrenOf, if_neg hs] at hc
      obtain ⟨kv, hkv, rfl⟩ := List.mem_map.mp hin
      exact ⟨List.ne_nil_of_mem (hc.2.1 kv hkv), fun m hm => Option.some.inj hm ▸ hc.2.1 kv hkv⟩

/-- **C17 (hierarchical k-medoids)**: every tier returned by the scan is a partition of all points and
    decomposes into valid splits of the previous tier's clusters -/
theorem hier_contract (d : Nat → Nat → Int) (splits : Nat → List Nat → Clusters) (S : ∀ i, SplitOk d (splits i))
    (points : List Nat) (hp : points.Nodup) : ∀ (t i : Nat) (cur : List (Option Nat × List Nat)), CurOk points cur →
    TiersOk d points (cur.map (·.2)) (hier splits t i cur) := by
  intro t
  induction t with
  | zero => intro i cur _; simp [hier, TiersOk]
  | succ t ih =>
    intro i cur C
    generalize hsp : splits i = split
    have hnd := (List.pairwise_flatMap.mp (nodup_of_count_eq hp C.count)).1
    have hch : ∀ e ∈ cur, ChildOk d e.2 (childrenOf split e) :=
      fun e he => childrenOf_ok d split (hsp ▸ S i) e (hnd e he) (C.entry e he).1 (C.entry e he).2
    have hcount : ∀ x, (ptsOf (cur.flatMap (childrenOf split))).count x = points.count x :=
      fun x => by rw [count_children d split cur hch x, C.count]
    have hkeys : (keysOf (cur.flatMap (childrenOf split))).Nodup :=
      keys_nodup_of_pts_nodup _ (nodup_of_count_eq hp hcount) fun kv hkv =>
        let ⟨e, he, hin⟩ := List.mem_flatMap.mp hkv
        (hch e he).2.1 kv hin
    have hstep := hierStep_eq split cur [] [] (by simpa [keysOf] using hkeys)
    simp only [List.nil_append] at hstep
    simp only [hier, hsp, hstep]
    split
    · simp [TiersOk]
    · split
      · refine ⟨⟨cur.map (childrenOf split), List.flatMap_def, forall₂_map_map _ _ cur hch⟩, hcount, hkeys, ?_⟩
        rw [map_snd_children]
        exact ih (i + 1) _ (curOk_next d split points cur C hch)
      · simp [TiersOk]

/-- the observed entry point -/
theorem createHier_contract (d : Nat → Nat → Int) (splits : Nat → List Nat → Clusters) (S : ∀ i, SplitOk d (splits i))
    (points : List Nat) (hp : points.Nodup) (maxTiers : Nat) :
    TiersOk d points [points] (createHier splits points maxTiers) := by
  unfold createHier
  by_cases he : points.isEmpty = true
  · simp [he, TiersOk]
  · have he' : points.isEmpty = false := by simpa using he
    simp only [he', Bool.false_eq_true, if_false]
    have hne : points ≠ [] := by simpa using he
    exact hier_contract d splits S points hp maxTiers 0 [(none, points)]
      ⟨by simp, by intro e he; simp at he; subst he; exact ⟨hne, by simp⟩⟩

theorem childOk_pts_sub {d : Nat → Nat → Int} {par : List Nat} {part : Clusters} (h : ChildOk d par part) :
    ∀ kv ∈ part, ∀ x ∈ kv.2, x ∈ par := by
  intro kv hkv x hx
  have : x ∈ ptsOf part := List.mem_flatMap.mpr ⟨kv, hkv, hx⟩
  rwa [← List.count_pos_iff, h.1 x, List.count_pos_iff] at this

theorem forall₂_flatten {α β : Type} {R : α → List β → Prop} {as : List α} {ls : List (List β)}
    (h : List.Forall₂ R as ls) : ∀ x ∈ ls.flatten, ∃ a ∈ as, ∃ l, R a l ∧ x ∈ l := by
  induction h with
  | nil => intro x hx; cases hx
  | @cons a l as ls hal _ ih =>
    intro x hx
    rcases List.mem_append.mp (List.flatten_cons ▸ hx) with hx | hx
    · exact ⟨a, List.mem_cons_self, l, hal, hx⟩
    · obtain ⟨a', ha', l', h'⟩ := ih x hx
      exact ⟨a', List.mem_cons_of_mem _ ha', l', h'⟩

theorem childOk_refines (d : Nat → Nat → Int) (parents : List (List Nat)) (parts : List Clusters)
    (h : List.Forall₂ (ChildOk d) parents parts) : ∀ kv ∈ parts.flatten, ∃ par ∈ parents, ∀ x ∈ kv.2, x ∈ par := by
  intro kv hkv
  obtain ⟨par, hpar, part, hR, hkv⟩ := forall₂_flatten h kv hkv
  exact ⟨par, hpar, childOk_pts_sub hR kv hkv⟩

/-- the split contract is what the flat theorems give for `create_kmedoids` on a proper distance table,
    whatever start medoids (taken from the data) and hash-map orders occur -/
theorem splitOk_of_createKMedoids (d : Nat → Nat → Int) (hrefl : ∀ x, d x x = 0) (hpos : ∀ x y, x ≠ y → 0 < d x y)
    (split : List Nat → Clusters) (init : List Nat → List Nat) (ord : Nat → List Nat → List Nat)
    (hord : ∀ i l, (ord i l).Perm l) (hinit : ∀ data, ∀ m ∈ init data, m ∈ data)
    (hinit2 : ∀ data, (init data).length ≤ 2)
    (hsplit : ∀ data, createKMedoids d data (some (init data)) ord = some (split data)) : SplitOk d split := by
  constructor
  intro data _ _
  have h := hsplit data
  refine ⟨(result_is_partition d data ord hord (init data) (hinit data) (split data) h).1, ?_, ?_, ?_⟩
  · exact key_in_own_cluster d data ord hord (init data) (hinit data) (split data) h (fun x _ => hrefl x)
      (fun x _ y _ hxy => hpos x y hxy)
  · exact nearest_own_medoid d data ord hord (init data) (hinit data) (split data) h
  · exact Nat.le_trans (at_most_k_clusters d data ord hord (init data) (hinit data) (split data) h) (hinit2 data)

theorem inside_iff (child parent : List Nat) : inside child parent = true ↔ ∀ x ∈ child, x ∈ parent := by
  simp [inside, List.all_eq_true]

/-- in a tier made of one valid split per parent (parents pairwise disjoint), the clusters lying inside a parent
    are exactly that parent's split — so the executable check finds the right siblings -/
theorem sibs_of_forall₂ (d : Nat → Nat → Int) : ∀ (parents : List (List Nat)) (parts : List Clusters),
    List.Forall₂ (ChildOk d) parents parts → parents.flatten.Nodup →
    ∀ par ∈ parents, par.Nodup ∧ ChildOk d par (parts.flatten.filter (fun kv => inside kv.2 par)) := by
  intro parents parts h
  induction h with
  | nil => intro _ par hpar; simp at hpar
  | @cons P Q Ps Qs hPQ htail ih =>
    intro hnd par hpar
    simp only [List.flatten_cons] at hnd ⊢
    obtain ⟨hP, hPs, hdisj⟩ := List.nodup_append.mp hnd
    rw [List.filter_append]
    have htailpts : ∀ kv ∈ Qs.flatten, ∃ x ∈ kv.2, x ∈ Ps.flatten := by
      intro kv hkv
      obtain ⟨par', hpar', part, hR, hkv⟩ := forall₂_flatten htail kv hkv
      exact ⟨kv.1, hR.2.1 kv hkv, List.mem_flatten.mpr ⟨par', hpar', childOk_pts_sub hR kv hkv kv.1 (hR.2.1 kv hkv)⟩⟩
    rcases List.mem_cons.mp hpar with hpar | hpar
    · subst hpar
      have h1 : Q.filter (fun kv => inside kv.2 par) = Q :=
        List.filter_eq_self.mpr fun kv hkv => (inside_iff _ _).mpr (childOk_pts_sub hPQ kv hkv)
      have h2 : Qs.flatten.filter (fun kv => inside kv.2 par) = [] := by
        refine List.filter_eq_nil_iff.mpr fun kv hkv => ?_
        obtain ⟨x, hx, hxP⟩ := htailpts kv hkv
        rw [inside_iff]
        exact fun hall => hdisj x (hall x hx) x hxP rfl
      rw [h1, h2, List.append_nil]
      exact ⟨hP, hPQ⟩
    · have h1 : Q.filter (fun kv => inside kv.2 par) = [] := by
        refine List.filter_eq_nil_iff.mpr fun kv hkv => ?_
        have hkey := hPQ.2.1 kv hkv
        rw [inside_iff]
        intro hall
        exact hdisj kv.1 (childOk_pts_sub hPQ kv hkv kv.1 hkey) kv.1 (List.mem_flatten.mpr ⟨par, hpar, hall kv.1 hkey⟩) rfl
      rw [h1, List.nil_append]
      exact ih hPs par hpar

theorem tiersOk_specHier (d : Nat → Nat → Int) (points : List Nat) (hp : points.Nodup) :
    ∀ (tiers : List Clusters) (parents : List (List Nat)), (∀ x, parents.flatten.count x = points.count x) →
    TiersOk d points parents tiers → specHier d points parents tiers = true := by
  intro tiers
  induction tiers with
  | nil => intro parents _ _; simp [specHier]
  | cons tier rest ih =>
    intro parents hpar hT
    obtain ⟨⟨parts, htier, hF⟩, hcount, hkeys, hrest⟩ := hT
    have hne : ∀ kv ∈ tier, kv.2 ≠ [] := by
      intro kv hkv
      obtain ⟨_, _, part, hR, hkv⟩ := forall₂_flatten hF kv (htier ▸ hkv)
      exact List.ne_nil_of_mem (hR.2.1 kv hkv)
    simp only [specHier, Bool.and_eq_true]
    refine ⟨⟨(specPartition_iff points tier).mpr ⟨hcount, hkeys, hne⟩, ?_⟩, ?_⟩
    · unfold specTier
      simp only [Bool.and_eq_true, List.all_eq_true, List.any_eq_true, decide_eq_true_eq]
      constructor
      · intro kv hkv
        rw [htier] at hkv
        obtain ⟨par, hpar', hin⟩ := childOk_refines d parents parts hF kv hkv
        exact ⟨par, hpar', (inside_iff _ _).mpr hin⟩
      · intro par hpar'
        obtain ⟨hP, hQ⟩ := sibs_of_forall₂ d parents parts hF (nodup_of_count_eq hp hpar) par hpar'
        rw [← htier] at hQ
        exact ⟨⟨(specNearest_iff d _).mpr hQ.2.2.1, hQ.2.2.2⟩, (specPartition_iff par _).mpr
          ⟨hQ.1, keys_nodup_of_pts_nodup _ (nodup_of_count_eq hP hQ.1) hQ.2.1,
            fun kv hkv => List.ne_nil_of_mem (hQ.2.1 kv hkv)⟩⟩
    · exact ih (tier.map (·.2)) (fun x => by rw [← List.flatMap_def]; exact hcount x) hrest

/-- **C17 (hierarchical k-medoids)**: the model's hierarchy passes exactly the executable per-split check that the
    driver evaluates on the tiers returned by the real `create_hierarchical_kmedoids` -/
theorem createHier_meets_spec (d : Nat → Nat → Int) (splits : Nat → List Nat → Clusters) (S : ∀ i, SplitOk d (splits i))
    (points : List Nat) (hp : points.Nodup) (maxTiers : Nat) :
    specHier d points [points] (createHier splits points maxTiers) = true :=
  tiersOk_specHier d points hp _ [points] (by simp) (createHier_contract d splits S points hp maxTiers)

/-- non-vacuity: eleven points on a line at 0..3 | 10..13 | 30..32, splits by the model of `create_kmedoids`
    started from the first two points of the data: two tiers, a third would have no cluster above two points -/
def pos11 : List Int := [0, 1, 2, 3, 10, 11, 12, 13, 30, 31, 32]
def exD11 (a b : Nat) : Int := ((pos11.getD a 0) - (pos11.getD b 0)).natAbs
def exSplit (data : List Nat) : Clusters := (createKMedoids exD11 data (some (data.take 2)) (fun _ l => l)).getD []

theorem exHier_eq : createHier (fun _ => exSplit) (List.range 11) 4 =
    [[(1, [0, 1, 2, 3]), (7, [4, 5, 6, 7, 8, 9, 10])],
     [(0, [0, 1]), (2, [2, 3]), (5, [4, 5, 6, 7]), (9, [8, 9, 10])]] := by decide +kernel

example : createHier (fun _ => exSplit) (List.range 11) 4 =
    [[(1, [0, 1, 2, 3]), (7, [4, 5, 6, 7, 8, 9, 10])],
     [(0, [0, 1]), (2, [2, 3]), (5, [4, 5, 6, 7]), (9, [8, 9, 10])]] := exHier_eq

example : specHier exD11 (List.range 11) [List.range 11] (createHier (fun _ => exSplit) (List.range 11) 4) = true := by
  rw [exHier_eq]; decide +kernel

end C17.KMed
