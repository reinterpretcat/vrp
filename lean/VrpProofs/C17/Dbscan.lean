import VrpModel.C17
import VrpProofs.C17.Basic
/-!
# C17 / DBSCAN

The expansion loop keeps `LoopInv`, a finished expansion gives `DoneInv`, the loop over the points keeps `Good`; the
property theorems are read off `Good`.
-/
namespace C17.Dbscan

/-- INDEPENDENT SPEC: `q` is density-reachable from `s`: a chain `s = p₀, p₁, …, pₖ = q` in which every `pᵢ`
    (`i < k`) is a core point and `pᵢ₊₁` is one of its neighbours -/
inductive Reach (nb : Nat → List Nat) (minPts : Nat) (s : Nat) : Nat → Prop
  | refl : Reach nb minPts s s
  | step {p q : Nat} : Reach nb minPts s p → core nb minPts p = true → q ∈ nb p → Reach nb minPts s q

theorem PT_cases (o : Option PT) : o = none ∨ o = some .noise ∨ o = some .clustered := by
  cases o with
  | none => simp
  | some t => cases t <;> simp

theorem getT_cons (ts : Types) (p q : Nat) (t : PT) :
    getT ((p, t) :: ts) q = if p = q then some t else getT ts q := by
  simp only [getT, List.find?_cons]
  by_cases e : p = q
  · simp [e]
  · have : (p == q) = false := by simp [e]
    simp [this, e]

theorem getT_cons_ne_none {ts : Types} {x : Nat} (p : Nat) (t : PT) (hx : getT ts x ≠ none) :
    getT ((p, t) :: ts) x ≠ none := by
  rw [getT_cons]; split
  · exact Option.some_ne_none t
  · exact hx

theorem typed_cons {S : List Nat} {ts : Types} (p : Nat) (h : ∀ q, q ∈ S ↔ getT ts q = some .clustered) (q : Nat) :
    q ∈ S ++ [p] ↔ getT ((p, .clustered) :: ts) q = some .clustered := by
  rw [getT_cons, List.mem_append, List.mem_singleton]
  by_cases e : p = q
  · simp [e]
  · rw [if_neg e, ← h q]; exact ⟨fun h1 => h1.resolve_right (Ne.symm e), Or.inl⟩

theorem noise_cons {nb : Nat → List Nat} {minPts : Nat} {ts : Types} (p : Nat) {t : PT}
    (hp : t = .noise → core nb minPts p = false) (h : ∀ q, getT ts q = some .noise → core nb minPts q = false)
    (q : Nat) (hq : getT ((p, t) :: ts) q = some .noise) : core nb minPts q = false := by
  rw [getT_cons] at hq
  split at hq
  · rename_i e; exact e ▸ hp (Option.some.inj hq)
  · exact h q hq

section eqns
variable {nb : Nat → List Nat} {minPts fuel : Nat} {nbs : List Nat} {idx : Nat} {nbIdx : List Nat} {ts : Types}
  {cl : List Nat} {p : Nat}

theorem expand_done (h : nbs[idx]? = none) :
    expand nb minPts (fuel + 1) nbs idx nbIdx ts cl = some (ts, cl) := by
  simp [expand, h]

theorem expand_clustered (h : nbs[idx]? = some p) (ht : getT ts p = some .clustered) :
    expand nb minPts (fuel + 1) nbs idx nbIdx ts cl = expand nb minPts fuel nbs (idx + 1) nbIdx ts cl := by
  simp [expand, h, ht]

theorem expand_new_core (h : nbs[idx]? = some p) (ht : getT ts p = none) (hc : minPts ≤ (nb p).length) :
    expand nb minPts (fuel + 1) nbs idx nbIdx ts cl =
      expand nb minPts fuel (nbs ++ (nb p).filter (fun q => !nbIdx.contains q)) (idx + 1) (nbIdx ++ nb p)
        ((p, .clustered) :: ts) (cl ++ [p]) := by
  simp [expand, h, ht, hc]

theorem expand_plain (h : nbs[idx]? = some p) (ht : getT ts p ≠ some .clustered)
    (hc : getT ts p = none → ¬ minPts ≤ (nb p).length) :
    expand nb minPts (fuel + 1) nbs idx nbIdx ts cl =
      expand nb minPts fuel nbs (idx + 1) nbIdx ((p, .clustered) :: ts) (cl ++ [p]) := by
  cases hg : getT ts p with
  | none => simp [expand, h, hg, hc hg]
  | some t =>
    cases t with
    | noise => simp [expand, h, hg]
    | clustered => exact absurd hg ht

end eqns

/-- state of the `while` loop that grows the cluster `cl` of `seed`; `pre` = members of the clusters finished earlier -/
structure LoopInv (nb : Nat → List Nat) (minPts : Nat) (pre : List Nat) (seed : Nat)
    (nbs : List Nat) (idx : Nat) (nbIdx : List Nat) (ts : Types) (cl : List Nat) : Prop where
  nodup : (pre ++ cl).Nodup
  typed : ∀ p, p ∈ pre ++ cl ↔ getT ts p = some .clustered
  noise : ∀ p, getT ts p = some .noise → core nb minPts p = false
  idxsub : ∀ q ∈ nbIdx, q ∈ nbs
  done : ∀ j q, j < idx → nbs[j]? = some q → q ∈ pre ++ cl
  closed : ∀ p ∈ pre ++ cl, core nb minPts p = true → ∀ q ∈ nb p, q ∈ pre ++ cl ∨ q ∈ nbs
  reachW : ∀ q ∈ nbs, Reach nb minPts seed q
  reachC : ∀ q ∈ cl, Reach nb minPts seed q
  head : cl.head? = some seed

structure DoneInv (nb : Nat → List Nat) (minPts : Nat) (pre : List Nat) (seed : Nat) (ts : Types) (cl : List Nat) :
    Prop where
  nodup : (pre ++ cl).Nodup
  typed : ∀ p, p ∈ pre ++ cl ↔ getT ts p = some .clustered
  noise : ∀ p, getT ts p = some .noise → core nb minPts p = false
  closed : ∀ p ∈ pre ++ cl, core nb minPts p = true → ∀ q ∈ nb p, q ∈ pre ++ cl
  reachC : ∀ q ∈ cl, Reach nb minPts seed q
  head : cl.head? = some seed

namespace LoopInv
variable {nb : Nat → List Nat} {minPts : Nat} {pre : List Nat} {seed : Nat} {nbs : List Nat} {idx : Nat}
  {nbIdx : List Nat} {ts : Types} {cl : List Nat} {p : Nat}

theorem skip (I : LoopInv nb minPts pre seed nbs idx nbIdx ts cl) (h : nbs[idx]? = some p)
    (ht : getT ts p = some .clustered) : LoopInv nb minPts pre seed nbs (idx + 1) nbIdx ts cl :=
  { I with
    done := by
      intro j q hj hq
      by_cases e : j = idx
      · subst e; rw [h] at hq; cases hq; exact (I.typed p).mpr ht
      · exact I.done j q (Nat.lt_of_le_of_ne (Nat.le_of_lt_succ hj) e) hq }

/-- adding the worklist element `p` to the cluster (all three branches in which `p` is not yet clustered);
    `ext` is what the branch appends to the worklist -/
theorem add (I : LoopInv nb minPts pre seed nbs idx nbIdx ts cl) (h : nbs[idx]? = some p)
    (ht : getT ts p ≠ some .clustered) (ext nbIdx' : List Nat)
    (hidx : ∀ q ∈ nbIdx', q ∈ nbs ++ ext)
    (hreach : ∀ q ∈ ext, Reach nb minPts seed q)
    (hcore : core nb minPts p = true → ∀ q ∈ nb p, q ∈ nbs ++ ext) :
    LoopInv nb minPts pre seed (nbs ++ ext) (idx + 1) nbIdx' ((p, .clustered) :: ts) (cl ++ [p]) := by
  have hlt : idx < nbs.length := (List.getElem?_eq_some_iff.mp h).1
  have hpn : p ∉ pre ++ cl := fun hm => ht ((I.typed p).mp hm)
  have hpw : p ∈ nbs := List.mem_of_getElem? h
  refine ⟨?_, ?_, noise_cons p (fun e => nomatch e) I.noise, hidx, ?_, ?_, ?_, ?_, ?_⟩
  · rw [← List.append_assoc]; exact nodup_concat.mpr ⟨hpn, I.nodup⟩
  · rw [← List.append_assoc]; exact typed_cons p I.typed
  · rw [← List.append_assoc]
    intro j q hj hq
    rw [List.getElem?_append_left (Nat.lt_of_lt_of_le hj hlt)] at hq
    by_cases e : j = idx
    · subst e; rw [h] at hq; cases hq; exact List.mem_append_right _ List.mem_cons_self
    · exact List.mem_append_left _ (I.done j q (Nat.lt_of_le_of_ne (Nat.le_of_lt_succ hj) e) hq)
  · rw [← List.append_assoc]
    intro x hx hcx q hq
    rcases List.mem_append.mp hx with hx | hx
    · exact (I.closed x hx hcx q hq).imp (List.mem_append_left _) (List.mem_append_left _)
    · cases List.mem_singleton.mp hx
      exact Or.inr (hcore hcx q hq)
  · intro q hq
    exact (List.mem_append.mp hq).elim (I.reachW q) (hreach q)
  · intro q hq
    rcases List.mem_append.mp hq with hq | hq
    · exact I.reachC q hq
    · cases List.mem_singleton.mp hq; exact I.reachW _ hpw
  · rw [List.head?_append, I.head]; rfl

theorem add_plain (I : LoopInv nb minPts pre seed nbs idx nbIdx ts cl) (h : nbs[idx]? = some p)
    (ht : getT ts p ≠ some .clustered) (hc : core nb minPts p = false) :
    LoopInv nb minPts pre seed nbs (idx + 1) nbIdx ((p, .clustered) :: ts) (cl ++ [p]) := by
  have := I.add h ht [] nbIdx (fun q hq => List.mem_append_left _ (I.idxsub q hq)) (fun _ h => nomatch h)
    (fun h => (by rw [hc] at h; cases h))
  rwa [List.append_nil] at this

end LoopInv

theorem expand_inv (nb : Nat → List Nat) (minPts : Nat) (pre : List Nat) (seed : Nat) :
    ∀ (fuel : Nat) (nbs : List Nat) (idx : Nat) (nbIdx : List Nat) (ts : Types) (cl : List Nat) (r : Types × List Nat),
      LoopInv nb minPts pre seed nbs idx nbIdx ts cl → expand nb minPts fuel nbs idx nbIdx ts cl = some r →
      DoneInv nb minPts pre seed r.1 r.2 ∧ ∀ x, getT ts x ≠ none → getT r.1 x ≠ none := by
  intro fuel
  induction fuel with
  | zero => intro nbs idx nbIdx ts cl r _ h; simp [expand] at h
  | succ fuel ih =>
    intro nbs idx nbIdx ts cl r I h
    have hadd : ∀ {p nbs' nbIdx'}, LoopInv nb minPts pre seed nbs' (idx + 1) nbIdx' ((p, .clustered) :: ts) (cl ++ [p]) →
        expand nb minPts fuel nbs' (idx + 1) nbIdx' ((p, .clustered) :: ts) (cl ++ [p]) = some r →
        DoneInv nb minPts pre seed r.1 r.2 ∧ ∀ x, getT ts x ≠ none → getT r.1 x ≠ none :=
      fun I' h' => (ih _ _ _ _ _ r I' h').imp_right fun hm x hx => hm x (getT_cons_ne_none _ _ hx)
    cases hp : nbs[idx]? with
    | none =>
      rw [expand_done hp] at h
      cases h
      have hlen : nbs.length ≤ idx := List.getElem?_eq_none_iff.mp hp
      have hall : ∀ q ∈ nbs, q ∈ pre ++ cl := by
        intro q hq
        obtain ⟨j, hj, rfl⟩ := List.mem_iff_getElem.mp hq
        exact I.done j _ (Nat.lt_of_lt_of_le hj hlen) (List.getElem?_eq_getElem hj)
      exact ⟨⟨I.nodup, I.typed, I.noise, fun x hx hc q hq => (I.closed x hx hc q hq).elim id (hall q),
        I.reachC, I.head⟩, fun _ hx => hx⟩
    | some p =>
      by_cases ht : getT ts p = some .clustered
      · rw [expand_clustered hp ht] at h
        exact ih _ _ _ _ _ r (I.skip hp ht) h
      by_cases hc : getT ts p = none ∧ minPts ≤ (nb p).length
      · rw [expand_new_core hp hc.1 hc.2] at h
        have hnew : ∀ q ∈ nb p, q ∈ nbs ++ (nb p).filter (fun q => !nbIdx.contains q) := by
          intro q hq
          by_cases hin : q ∈ nbIdx
          · exact List.mem_append_left _ (I.idxsub q hin)
          · exact List.mem_append_right _ (List.mem_filter.mpr ⟨hq, by simpa using hin⟩)
        refine hadd (I.add hp ht _ _ ?_ ?_ fun _ => hnew) h
        · intro q hq
          exact (List.mem_append.mp hq).elim (fun hq => List.mem_append_left _ (I.idxsub q hq)) (hnew q)
        · intro q hq
          exact Reach.step (I.reachW p (List.mem_of_getElem? hp)) (decide_eq_true hc.2) (List.mem_filter.mp hq).1
      · rw [expand_plain hp ht fun h0 hle => hc ⟨h0, hle⟩] at h
        refine hadd (I.add_plain hp ht ?_) h
        rcases PT_cases (getT ts p) with h0 | h0 | h0
        · exact decide_eq_false fun hle => hc ⟨h0, hle⟩
        · exact I.noise p h0
        · exact absurd h0 ht

structure Good (nb : Nat → List Nat) (minPts : Nat) (s : St) : Prop where
  nodup : s.clusters.flatten.Nodup
  typed : ∀ p, p ∈ s.clusters.flatten ↔ getT s.types p = some .clustered
  noise : ∀ p, getT s.types p = some .noise → core nb minPts p = false
  closed : ∀ p ∈ s.clusters.flatten, core nb minPts p = true → ∀ q ∈ nb p, q ∈ s.clusters.flatten
  seeds : ∀ c ∈ s.clusters, ∃ seed, c.head? = some seed ∧ core nb minPts seed = true ∧
    ∀ q ∈ c, Reach nb minPts seed q

/-- the three ways through the body of `for point in points` -/
theorem visit_cases (nb : Nat → List Nat) (minPts fuel : Nat) (s : St) (p : Nat) :
    (getT s.types p ≠ none ∧ visit nb minPts fuel s p = some s) ∨
    getT s.types p = none ∧
      ((core nb minPts p = false ∧ visit nb minPts fuel s p = some { s with types := (p, .noise) :: s.types }) ∨
       (core nb minPts p = true ∧ visit nb minPts fuel s p =
          (expand nb minPts fuel (nb p) 0 (nb p) ((p, .clustered) :: s.types) [p]).map
            fun r => { types := r.1, clusters := s.clusters ++ [r.2] })) := by
  unfold visit core
  cases getT s.types p with
  | some t => exact Or.inl ⟨Option.some_ne_none t, rfl⟩
  | none =>
    refine Or.inr ⟨rfl, ?_⟩
    by_cases hl : (nb p).length < minPts
    · exact Or.inl ⟨decide_eq_false (Nat.not_le.mpr hl), by simp [hl]⟩
    · refine Or.inr ⟨decide_eq_true (Nat.not_lt.mp hl), ?_⟩
      simp only [Option.isSome_none, Bool.false_eq_true, if_false, hl]
      cases expand nb minPts fuel (nb p) 0 (nb p) ((p, .clustered) :: s.types) [p] <;> rfl

theorem visit_good (nb : Nat → List Nat) (minPts fuel : Nat) (s s' : St) (p : Nat) (G : Good nb minPts s)
    (h : visit nb minPts fuel s p = some s') :
    Good nb minPts s' ∧ getT s'.types p ≠ none ∧ (∀ x, getT s.types x ≠ none → getT s'.types x ≠ none) ∧
      (∀ c ∈ s'.clusters, c ∈ s.clusters ∨ c.head? = some p) := by
  have hp' : ∀ t, getT ((p, t) :: s.types) p ≠ none := fun t => by
    rw [getT_cons, if_pos rfl]; exact Option.some_ne_none t
  rcases visit_cases nb minPts fuel s p with ⟨hs, e⟩ | ⟨hnone, ⟨hcore, e⟩ | ⟨hcore, e⟩⟩ <;> rw [e] at h
  · cases h
    exact ⟨G, hs, fun _ hx => hx, fun c hc => Or.inl hc⟩
  · cases h
    refine ⟨⟨G.nodup, fun q => ?_, noise_cons p (fun _ => hcore) G.noise, G.closed, G.seeds⟩, hp' _,
      fun x hx => getT_cons_ne_none p _ hx, fun c hc => Or.inl hc⟩
    show _ ↔ getT ((p, .noise) :: s.types) q = some .clustered
    rw [getT_cons, G.typed]
    split
    · rename_i e; subst e; simp [hnone]
    · rfl
  · obtain ⟨r, he, rfl⟩ := Option.map_eq_some_iff.mp h
    have hpn : p ∉ s.clusters.flatten := fun hm => by
      have := (G.typed p).mp hm; rw [hnone] at this; cases this
    have I : LoopInv nb minPts s.clusters.flatten p (nb p) 0 (nb p) ((p, .clustered) :: s.types) [p] :=
      ⟨nodup_concat.mpr ⟨hpn, G.nodup⟩, typed_cons p G.typed, noise_cons p (fun e => nomatch e) G.noise, fun q hq => hq,
        fun j q hj => absurd hj (Nat.not_lt_zero j),
        fun x hx hcx q hq => (List.mem_append.mp hx).elim
          (fun hx => Or.inl (List.mem_append_left _ (G.closed x hx hcx q hq)))
          (fun hx => Or.inr (List.mem_singleton.mp hx ▸ hq)),
        fun q hq => Reach.step Reach.refl hcore hq, fun q hq => List.mem_singleton.mp hq ▸ Reach.refl, rfl⟩
    obtain ⟨D, hmono⟩ := expand_inv nb minPts s.clusters.flatten p fuel _ _ _ _ _ r I he
    have hflat : (s.clusters ++ [r.2]).flatten = s.clusters.flatten ++ r.2 := by simp
    refine ⟨⟨hflat ▸ D.nodup, hflat ▸ D.typed, D.noise, hflat ▸ D.closed, fun c hc => ?_⟩, hmono p (hp' _),
      fun x hx => hmono x (getT_cons_ne_none p _ hx), fun c hc => ?_⟩
    · rcases List.mem_append.mp hc with hc | hc
      · exact G.seeds c hc
      · cases List.mem_singleton.mp hc
        exact ⟨p, D.head, hcore, D.reachC⟩
    · rcases List.mem_append.mp hc with hc | hc
      · exact Or.inl hc
      · cases List.mem_singleton.mp hc; exact Or.inr D.head

theorem run_good (nb : Nat → List Nat) (minPts fuel : Nat) : ∀ (points : List Nat) (s s' : St),
    Good nb minPts s → run nb minPts fuel s points = some s' →
    Good nb minPts s' ∧ (∀ p ∈ points, getT s'.types p ≠ none) ∧
      (∀ x, getT s.types x ≠ none → getT s'.types x ≠ none) ∧
      (∀ c ∈ s'.clusters, c ∈ s.clusters ∨ ∃ p ∈ points, c.head? = some p) := by
  intro points
  induction points with
  | nil =>
    intro s s' G h
    cases h
    exact ⟨G, fun _ h => (nomatch h), fun _ hx => hx, fun c hc => Or.inl hc⟩
  | cons p ps ih =>
    intro s s' G h
    rw [run] at h
    split at h
    · cases h
    · rename_i s1 hv
      obtain ⟨G1, hp1, hm1, hc1⟩ := visit_good nb minPts fuel s s1 p G hv
      obtain ⟨G2, hp2, hm2, hc2⟩ := ih s1 s' G1 h
      refine ⟨G2, fun q hq => ?_, fun x hx => hm2 x (hm1 x hx), fun c hc => ?_⟩
      · rcases List.mem_cons.mp hq with rfl | hq
        · exact hm2 q hp1
        · exact hp2 q hq
      · rcases hc2 c hc with h1 | ⟨q, hq, hh⟩
        · exact (hc1 c h1).imp_right fun h2 => ⟨p, List.mem_cons_self, h2⟩
        · exact Or.inr ⟨q, List.mem_cons_of_mem _ hq, hh⟩

theorem createClusters_good {nb : Nat → List Nat} {minPts fuel : Nat} {points : List Nat} {cs : List (List Nat)}
    (h : createClusters nb minPts fuel points = some cs) :
    ∃ s', s'.clusters = cs ∧ Good nb minPts s' ∧ (∀ p ∈ points, getT s'.types p ≠ none) ∧
      ∀ c ∈ cs, ∃ p ∈ points, c.head? = some p := by
  obtain ⟨s', hr, rfl⟩ := Option.map_eq_some_iff.mp h
  obtain ⟨G, hp, _, hc⟩ := run_good nb minPts fuel points { types := [], clusters := [] } s'
    ⟨List.nodup_nil, fun _ => ⟨fun h => (nomatch h), fun h => (nomatch h)⟩, fun _ h => (nomatch h),
      fun _ h => (nomatch h), fun _ h => (nomatch h)⟩ hr
  exact ⟨s', rfl, G, hp, fun c hcm => (hc c hcm).resolve_left (fun h => nomatch h)⟩

/-- **C17 (DBSCAN)**: no point belongs to two clusters and no cluster lists a point twice -/
theorem clusters_pairwise_disjoint (nb : Nat → List Nat) (minPts fuel : Nat) (points : List Nat) (cs : List (List Nat))
    (h : createClusters nb minPts fuel points = some cs) : cs.flatten.Nodup := by
  obtain ⟨s', rfl, G, _⟩ := createClusters_good h
  exact G.nodup

/-- **C17 (DBSCAN)**: every cluster is grown from a point of the input that has at least `min_points` neighbours -/
theorem cluster_seed_is_core (nb : Nat → List Nat) (minPts fuel : Nat) (points : List Nat) (cs : List (List Nat))
    (h : createClusters nb minPts fuel points = some cs) :
    ∀ c ∈ cs, ∃ seed, c.head? = some seed ∧ seed ∈ points ∧ minPts ≤ (nb seed).length := by
  obtain ⟨s', rfl, G, _, hc⟩ := createClusters_good h
  intro c hcm
  obtain ⟨seed, hh, hcore, _⟩ := G.seeds c hcm
  obtain ⟨p, hp, hph⟩ := hc c hcm
  rw [hh] at hph; cases hph
  exact ⟨seed, hh, hp, of_decide_eq_true hcore⟩

/-- **C17 (DBSCAN)**: every member of a cluster is density-reachable from the cluster's first point -/
theorem members_density_reachable (nb : Nat → List Nat) (minPts fuel : Nat) (points : List Nat) (cs : List (List Nat))
    (h : createClusters nb minPts fuel points = some cs) :
    ∀ c ∈ cs, ∃ seed, c.head? = some seed ∧ ∀ q ∈ c, Reach nb minPts seed q := by
  obtain ⟨s', rfl, G, _⟩ := createClusters_good h
  intro c hcm
  obtain ⟨seed, hh, _, hr⟩ := G.seeds c hcm
  exact ⟨seed, hh, hr⟩

/-- **C17 (DBSCAN)**: no core point of the input is left unclustered, and the clusters are closed under
    neighbourhoods of their core members (every neighbour of a clustered core point is clustered) -/
theorem no_core_unclustered (nb : Nat → List Nat) (minPts fuel : Nat) (points : List Nat) (cs : List (List Nat))
    (h : createClusters nb minPts fuel points = some cs) :
    (∀ p ∈ points, minPts ≤ (nb p).length → p ∈ cs.flatten) ∧
    (∀ p ∈ cs.flatten, minPts ≤ (nb p).length → ∀ q ∈ nb p, q ∈ cs.flatten) := by
  obtain ⟨s', rfl, G, hp, _⟩ := createClusters_good h
  constructor
  · intro p hpm hc
    rcases PT_cases (getT s'.types p) with ht | ht | ht
    · exact absurd ht (hp p hpm)
    · have := G.noise p ht; rw [core, decide_eq_true hc] at this; cases this
    · exact (G.typed p).mpr ht
  · intro p hpm hc q hq
    exact G.closed p hpm (decide_eq_true hc) q hq

/-- total length of the neighbourhoods of the points of `univ` that have no type yet -/
def W (nb : Nat → List Nat) (univ : List Nat) (ts : Types) : Nat :=
  ((univ.filter (fun q => (getT ts q).isNone)).map (fun q => (nb q).length)).sum

theorem W_cons (nb : Nat → List Nat) (u : Nat) (us : List Nat) (ts : Types) :
    W nb (u :: us) ts = (if (getT ts u).isNone then (nb u).length else 0) + W nb us ts := by
  unfold W
  simp only [List.filter_cons]
  split <;> simp

theorem W_cons_le (nb : Nat → List Nat) (x : Nat) (t : PT) (ts : Types) : ∀ univ : List Nat,
    W nb univ ((x, t) :: ts) ≤ W nb univ ts ∧
      (getT ts x = none → x ∈ univ → W nb univ ((x, t) :: ts) + (nb x).length ≤ W nb univ ts) := by
  intro univ
  induction univ with
  | nil => exact ⟨Nat.le_refl _, fun _ h => nomatch h⟩
  | cons u us ih =>
    rw [W_cons, W_cons, getT_cons]
    by_cases e : x = u
    · subst e
      rw [if_pos rfl]
      simp only [Option.isNone_some, Bool.false_eq_true, if_false, Nat.zero_add]
      refine ⟨Nat.le_trans ih.1 (Nat.le_add_left _ _), fun hx _ => ?_⟩
      rw [hx, Option.isNone_none, if_pos rfl, Nat.add_comm]
      exact Nat.add_le_add_left ih.1 _
    · rw [if_neg e]
      refine ⟨Nat.add_le_add_left ih.1 _, fun hx hmem => ?_⟩
      rw [Nat.add_assoc]
      exact Nat.add_le_add_left (ih.2 hx ((List.mem_cons.mp hmem).resolve_left e)) _

theorem W_le_total (nb : Nat → List Nat) (ts : Types) : ∀ univ : List Nat,
    W nb univ ts ≤ (univ.map (fun q => (nb q).length)).sum := by
  intro univ
  induction univ with
  | nil => exact Nat.le_refl _
  | cons u us ih =>
    rw [W_cons, List.map_cons, List.sum_cons]
    split
    · exact Nat.add_le_add_left ih _
    · exact Nat.zero_add _ ▸ Nat.le_trans ih (Nat.le_add_left _ _)

/-- `fuel + idx` stays and `|worklist| + potential` never grows: the neighbourhood of a point is appended only
    when the point gets its type -/
theorem expand_isSome (nb : Nat → List Nat) (minPts : Nat) (univ : List Nat)
    (hclosed : ∀ p ∈ univ, ∀ q ∈ nb p, q ∈ univ) :
    ∀ (fuel : Nat) (nbs : List Nat) (idx : Nat) (nbIdx : List Nat) (ts : Types) (cl : List Nat),
      (∀ q ∈ nbs, q ∈ univ) → idx ≤ nbs.length → nbs.length + W nb univ ts < fuel + idx →
      (expand nb minPts fuel nbs idx nbIdx ts cl).isSome = true := by
  intro fuel
  induction fuel with
  | zero => intro nbs idx nbIdx ts cl _ h1 h2; omega
  | succ fuel ih =>
    intro nbs idx nbIdx ts cl hsub _ hf
    cases hp : nbs[idx]? with
    | none => rw [expand_done hp]; rfl
    | some p =>
      have hlt : idx < nbs.length := (List.getElem?_eq_some_iff.mp hp).1
      have hpu : p ∈ univ := hsub p (List.mem_of_getElem? hp)
      have hf' : nbs.length + W nb univ ts < fuel + (idx + 1) := by omega
      by_cases ht : getT ts p = some .clustered
      · rw [expand_clustered hp ht]
        exact ih _ _ _ _ _ hsub hlt hf'
      by_cases hc : getT ts p = none ∧ minPts ≤ (nb p).length
      · rw [expand_new_core hp hc.1 hc.2]
        have h1 := (W_cons_le nb p .clustered ts univ).2 hc.1 hpu
        have h2 : ((nb p).filter (fun q => !nbIdx.contains q)).length ≤ (nb p).length := List.length_filter_le _ _
        refine ih _ _ _ _ _ (fun q hq => ?_) (Nat.le_trans hlt (List.length_append ▸ Nat.le_add_right _ _))
          (by rw [List.length_append]; omega)
        exact (List.mem_append.mp hq).elim (hsub q) fun hq => hclosed p hpu q (List.mem_filter.mp hq).1
      · rw [expand_plain hp ht fun h0 hle => hc ⟨h0, hle⟩]
        exact ih _ _ _ _ _ hsub hlt
          (Nat.lt_of_le_of_lt (Nat.add_le_add_left (W_cons_le nb p .clustered ts univ).1 _) hf')

theorem visit_isSome (nb : Nat → List Nat) (minPts : Nat) (univ : List Nat)
    (hclosed : ∀ p ∈ univ, ∀ q ∈ nb p, q ∈ univ) (s : St) (p : Nat) (hp : p ∈ univ) :
    (visit nb minPts (fuelBound nb univ) s p).isSome = true := by
  rcases visit_cases nb minPts (fuelBound nb univ) s p with ⟨_, e⟩ | ⟨hs, ⟨_, e⟩ | ⟨_, e⟩⟩ <;> rw [e]
  · rfl
  · rfl
  rw [Option.isSome_map]
  have h1 := (W_cons_le nb p .clustered s.types univ).2 hs hp
  have h2 := W_le_total nb s.types univ
  exact expand_isSome nb minPts univ hclosed (fuelBound nb univ) (nb p) 0 (nb p)
    ((p, .clustered) :: s.types) [p] (hclosed p hp) (Nat.zero_le _) (by unfold fuelBound; omega)

theorem run_isSome (nb : Nat → List Nat) (minPts : Nat) (univ : List Nat)
    (hclosed : ∀ p ∈ univ, ∀ q ∈ nb p, q ∈ univ) : ∀ (points : List Nat) (s : St), (∀ p ∈ points, p ∈ univ) →
    (run nb minPts (fuelBound nb univ) s points).isSome = true := by
  intro points
  induction points with
  | nil => intro s _; rfl
  | cons p ps ih =>
    intro s hsub
    obtain ⟨s1, hv⟩ := Option.isSome_iff_exists.mp (visit_isSome nb minPts univ hclosed s p (hsub p List.mem_cons_self))
    rw [run, hv]
    exact ih s1 fun q hq => hsub q (List.mem_cons_of_mem _ hq)

/-- **C17 (DBSCAN)**: when the points and all their neighbourhoods lie in `univ`, the fuel
    `1 + Σ_{q ∈ univ} |nb q|` is enough for every cluster expansion — the model never stops early, so it
    describes complete runs of the `while index < neighbors.len()` loop (which therefore terminates). -/
theorem fuel_sufficient (nb : Nat → List Nat) (minPts : Nat) (univ points : List Nat)
    (hpts : ∀ p ∈ points, p ∈ univ) (hclosed : ∀ p ∈ univ, ∀ q ∈ nb p, q ∈ univ) :
    (createClusters nb minPts (fuelBound nb univ) points).isSome = true := by
  rw [createClusters, Option.isSome_map]
  exact run_isSome nb minPts univ hclosed points _ hpts

/-- the model's output passes the executable specification entries `disjoint`, `seed_is_core`, `no_core_unclustered` -/
theorem model_meets_spec (nb : Nat → List Nat) (minPts fuel : Nat) (points : List Nat) (cs : List (List Nat))
    (h : createClusters nb minPts fuel points = some cs) :
    specDisjoint cs = true ∧ specSeedCore nb minPts points cs = true ∧ specNoCoreLeft nb minPts points cs = true := by
  refine ⟨?_, ?_, ?_⟩
  · unfold specDisjoint; rw [nodupB_iff]; exact clusters_pairwise_disjoint nb minPts fuel points cs h
  · unfold specSeedCore
    rw [List.all_eq_true]
    intro c hc
    obtain ⟨seed, hh, hp, hcore⟩ := cluster_seed_is_core nb minPts fuel points cs h c hc
    rw [hh]
    simp [core, hcore, hp]
  · obtain ⟨h1, h2⟩ := no_core_unclustered nb minPts fuel points cs h
    unfold specNoCoreLeft
    simp only [Bool.and_eq_true, List.all_eq_true, Bool.or_eq_true, Bool.not_eq_true', List.contains_iff_mem]
    exact ⟨fun p hp => (Bool.eq_false_or_eq_true _).symm.imp_right fun hc => h1 p hp (of_decide_eq_true hc),
      fun p hp => (Bool.eq_false_or_eq_true _).symm.imp_right fun hc => h2 p hp (of_decide_eq_true hc)⟩

theorem foldl_forall {α : Type} (P : Nat → Prop) (f : List Nat → α → List Nat) (l : List α)
    (hf : ∀ a x, x ∈ l → (∀ y ∈ a, P y) → ∀ y ∈ f a x, P y) : ∀ a : List Nat, (∀ y ∈ a, P y) → ∀ y ∈ l.foldl f a, P y := by
  induction l with
  | nil => exact fun a ha => ha
  | cons x xs ih =>
    exact fun a ha => ih (fun a y hy => hf a y (List.mem_cons_of_mem _ hy)) _ (hf a x List.mem_cons_self ha)

theorem reachStep_sound (nb : Nat → List Nat) (minPts seed : Nat) (s : List Nat)
    (hs : ∀ q ∈ s, Reach nb minPts seed q) : ∀ q ∈ reachStep nb minPts s, Reach nb minPts seed q := by
  refine foldl_forall _ _ s (fun a p hp ha => ?_) s hs
  split
  · rename_i hc
    refine foldl_forall _ _ (nb p) (fun a x hx ha => ?_) a ha
    split
    · exact ha
    · intro y hy
      rcases List.mem_append.mp hy with hy | hy
      · exact ha y hy
      · cases List.mem_singleton.mp hy; exact Reach.step (hs p hp) hc hx
  · exact ha

theorem reachSet_sound (nb : Nat → List Nat) (minPts seed : Nat) : ∀ (r : Nat) (s : List Nat),
    (∀ q ∈ s, Reach nb minPts seed q) → ∀ q ∈ reachSet nb minPts r s, Reach nb minPts seed q := by
  intro r
  induction r with
  | zero => exact fun s hs => hs
  | succ r ih => exact fun s hs => ih _ (reachStep_sound nb minPts seed s hs)

/-- the executable check `members_reachable` is sound for density-reachability -/
theorem specReachable_sound (nb : Nat → List Nat) (minPts rounds : Nat) (cs : List (List Nat))
    (h : specReachable nb minPts rounds cs = true) :
    ∀ c ∈ cs, ∃ seed, c.head? = some seed ∧ ∀ q ∈ c, Reach nb minPts seed q := by
  unfold specReachable at h
  rw [List.all_eq_true] at h
  intro c hc
  have := h c hc
  cases hh : c.head? with
  | none => simp [hh] at this
  | some seed =>
    simp only [hh, List.all_eq_true, List.contains_iff_mem] at this
    refine ⟨seed, rfl, fun q hq => reachSet_sound nb minPts seed rounds [seed] ?_ q (this q hq)⟩
    intro x hx; simp at hx; subst hx; exact Reach.refl

/-- points on a line at 0,1,2,3 | 6,7,8 | 20, neighbours within distance 1 (self included), `min_points = 3`:
    two clusters and one noise point; border points join the cluster that reaches them first -/
def exNb (p : Nat) : List Nat :=
  ([[0, 1], [1, 0, 2], [2, 1, 3], [3, 2], [4, 5], [5, 4, 6], [6, 5], [7]] : List (List Nat)).getD p []

example : createClusters exNb 3 (fuelBound exNb (List.range 8)) (List.range 8) =
    some [[1, 0, 2, 3], [5, 4, 6]] := by decide +kernel

example : specReachable exNb 3 9 [[1, 0, 2, 3], [5, 4, 6]] = true := by decide +kernel

/-- the hypotheses of `fuel_sufficient` hold for this instance -/
example : (∀ p ∈ List.range 8, p ∈ List.range 8) ∧ (∀ p ∈ List.range 8, ∀ q ∈ exNb p, q ∈ List.range 8) := by decide +kernel

/-- a point first marked as noise later joins a cluster as a border point (`points = [4, 0]`) -/
def exNb2 (p : Nat) : List Nat := ([[1, 2], [0, 3], [0], [], [3]] : List (List Nat)).getD p []
example : createClusters exNb2 2 (fuelBound exNb2 (List.range 5)) [4, 0] = some [[0, 1, 2, 3]] := by decide +kernel

end C17.Dbscan
