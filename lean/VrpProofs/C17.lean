import VrpProofs.C17.Lkh
import VrpProofs.C17.LkhCycle
import VrpProofs.C17.Dbscan
import VrpProofs.C17.KMed
/-!
# C17 — embedded optimisation and clustering algorithms keep their contracts

One summary per algorithm. `C17/LkhVisited.lean` (the loop of `KOpt::optimize` with its set of accepted tours) is not
imported here.
-/
namespace C17

open Lkh in
/-- LKH, the observable contract of one accepted move: permutation of the nodes, same start node, strictly
    cheaper closed tour -/
theorem lkh_move_contract (c : Nat → Nat → Int) (hsym : ∀ i j, c i j = c j i) (p q : List Nat) (hnd : p.Nodup)
    (h : Improves c p q) : q.Perm p ∧ q.head? = p.head? ∧ closedCost c q < closedCost c p :=
  improves_sound c hsym p q hnd h

open Dbscan in
/-- DBSCAN, all clauses at once for a complete run (fuel from `fuelBound`, see `fuel_sufficient`) -/
theorem dbscan_contract (nb : Nat → List Nat) (minPts fuel : Nat) (points : List Nat) (cs : List (List Nat))
    (h : createClusters nb minPts fuel points = some cs) :
    cs.flatten.Nodup ∧
    (∀ c ∈ cs, ∃ seed, c.head? = some seed ∧ seed ∈ points ∧ minPts ≤ (nb seed).length ∧
      ∀ q ∈ c, Reach nb minPts seed q) ∧
    (∀ p ∈ points, minPts ≤ (nb p).length → p ∈ cs.flatten) := by
  refine ⟨clusters_pairwise_disjoint nb minPts fuel points cs h, ?_, (no_core_unclustered nb minPts fuel points cs h).1⟩
  intro c hc
  obtain ⟨s1, h1, h2, h3⟩ := cluster_seed_is_core nb minPts fuel points cs h c hc
  obtain ⟨s2, g1, g2⟩ := members_density_reachable nb minPts fuel points cs h c hc
  rw [h1] at g1; cases g1
  exact ⟨s1, h1, h2, h3, g2⟩

open KMed in
/-- k-medoids, all clauses at once: partition of all points, nearest-own-medoid, keys are data points -/
theorem kmedoids_contract (d : Nat → Nat → Int) (data : List Nat) (ord : Nat → List Nat → List Nat)
    (hord : ∀ i l, (ord i l).Perm l) (ms : List Nat) (hms : ∀ m ∈ ms, m ∈ data) (cl : Clusters)
    (h : createKMedoids d data (some ms) ord = some cl) :
    (∀ x, (cl.flatMap (·.2)).count x = data.count x) ∧ (cl.map (·.1)).Nodup ∧
    (∀ kv ∈ cl, ∀ p ∈ kv.2, ∀ kv' ∈ cl, d p kv.1 ≤ d p kv'.1) ∧ (∀ kv ∈ cl, kv.1 ∈ data) := by
  obtain ⟨h1, h2, _⟩ := result_is_partition d data ord hord ms hms cl h
  obtain ⟨ms', g1, g2, _⟩ := keys_are_medoids d data ord hord ms hms cl h
  exact ⟨h1, h2, nearest_own_medoid d data ord hord ms hms cl h, fun kv hkv => g1 _ (g2 kv hkv)⟩

end C17
