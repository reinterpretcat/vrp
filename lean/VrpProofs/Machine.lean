import VrpModel.Machine
/-! The bookkeeping machine: `step` as a relation, the partition invariant by counting, operation sequences. -/

namespace Machine

def Part (all : List Job) (c : Ctx) : Prop := ∀ x, c.allJobs.count x = all.count x

theorem part_iff_perm (all : List Job) (c : Ctx) : Part all c ↔ c.allJobs.Perm all := by
  unfold Part; exact List.perm_iff_count.symm

def cnt (x : Job) (rs : List Route) : Nat := (rs.flatMap (·.jobs)).count x

theorem cnt_nil (x : Job) : cnt x [] = 0 := rfl
theorem cnt_cons (x : Job) (a : Route) (rs : List Route) : cnt x (a :: rs) = a.jobs.count x + cnt x rs := by
  simp only [cnt, List.flatMap_cons, List.count_append]
theorem cnt_append (x : Job) (rs ss : List Route) : cnt x (rs ++ ss) = cnt x rs + cnt x ss := by
  simp only [cnt, List.flatMap_append, List.count_append]

theorem count_allJobs (c : Ctx) (x : Job) :
    c.allJobs.count x = c.required.count x + c.ignored.count x + c.unassigned.count x + cnt x c.routes := by
  simp only [Ctx.allJobs, Ctx.assigned, List.count_append, cnt]

/-- the summand is written as `List.count_cons` produces it -/
theorem count_erase_add {α : Type} [BEq α] [LawfulBEq α] (x : α) {j : α} {l : List α} (h : j ∈ l) :
    (l.erase j).count x + (if j == x then 1 else 0) = l.count x :=
  (((List.perm_cons_erase h).count_eq x).trans List.count_cons).symm

theorem exists_split_at {α : Type} {l : List α} {i : Nat} {a : α} (h : l[i]? = some a) :
    ∃ pre post, l = pre ++ a :: post ∧ pre.length = i ∧
      (∀ f, l.modify i f = pre ++ f a :: post) ∧ l.eraseIdx i = pre ++ post := by
  induction l generalizing i with
  | nil => cases h
  | cons b l ih =>
    cases i with
    | zero => cases h; exact ⟨[], l, rfl, rfl, fun _ => rfl, rfl⟩
    | succ i =>
      obtain ⟨pre, post, rfl, rfl, hm, he⟩ := ih h
      exact ⟨b :: pre, post, rfl, rfl, fun f => congrArg (b :: ·) (hm f), congrArg (b :: ·) he⟩

/-- the successful steps as a relation, the touched route split off, so that no invariant proof meets `modify` or
    `eraseIdx` (`Step.of_step`; the converse is not needed) -/
inductive Step (c : Ctx) : Op → Ctx → Prop
  | insert {j : Job} {pre post : List Route} {rt : Route} :
      j ∈ c.required → c.routes = pre ++ rt :: post →
      Step c (.insert j pre.length)
        { c with required := c.required.erase j, routes := pre ++ { rt with jobs := j :: rt.jobs } :: post }
  | insertNew {j : Job} {a : Actor} : j ∈ c.required → a ∈ c.available →
      Step c (.insertNew j a)
        { c with required := c.required.erase j, available := c.available.erase a,
                 routes := c.routes ++ [{ actor := a, jobs := [j] }] }
  | remove {j : Job} {pre post : List Route} {rt : Route} :
      c.routes = pre ++ rt :: post → j ∈ rt.jobs → j ∉ c.locked →
      Step c (.remove j pre.length)
        { c with required := j :: c.required, routes := pre ++ { rt with jobs := rt.jobs.erase j } :: post }
  | dropRoute {pre post : List Route} {rt : Route} :
      c.routes = pre ++ rt :: post → (∀ j ∈ rt.jobs, j ∉ c.locked) →
      Step c (.dropRoute pre.length)
        { c with required := rt.jobs ++ c.required, routes := pre ++ post, available := rt.actor :: c.available }
  | finalize : Step c .finalize { c with unassigned := c.required ++ c.unassigned, required := [] }
  | prepare : Step c .prepare { c with required := c.unassigned ++ c.required, unassigned := [] }
  | ignore {j : Job} : j ∈ c.required →
      Step c (.ignore j) { c with required := c.required.erase j, ignored := j :: c.ignored }
  | promote {j : Job} : j ∈ c.ignored →
      Step c (.promote j) { c with ignored := c.ignored.erase j, required := j :: c.required }

namespace Step

theorem of_step {c c' : Ctx} {op : Op} (hs : step c op = some c') : Step c op c' := by
  cases op <;> simp only [step, Option.ite_none_right_eq_some, Option.some.injEq] at hs
  case insert j r =>
    obtain ⟨⟨hj, hr⟩, rfl⟩ := hs
    obtain ⟨pre, post, e, rfl, hm, -⟩ := exists_split_at (List.getElem?_eq_getElem hr)
    rw [hm]; exact .insert hj e
  case insertNew j a =>
    obtain ⟨⟨hj, ha⟩, rfl⟩ := hs
    exact .insertNew hj ha
  case remove j r =>
    split at hs
    · next rt hr =>
      simp only [Option.ite_none_right_eq_some, Option.some.injEq] at hs
      obtain ⟨⟨hj, hl⟩, rfl⟩ := hs
      obtain ⟨pre, post, e, rfl, hm, -⟩ := exists_split_at hr
      rw [hm]; exact .remove e hj hl
    · cases hs
  case dropRoute r =>
    split at hs
    · next rt hr =>
      simp only [Option.ite_none_right_eq_some, Option.some.injEq, List.all_eq_true, decide_eq_true_eq] at hs
      obtain ⟨hl, rfl⟩ := hs
      obtain ⟨pre, post, e, rfl, -, he⟩ := exists_split_at hr
      rw [he]; exact .dropRoute e hl
    · cases hs
  case finalize => exact hs ▸ .finalize
  case prepare => exact hs ▸ .prepare
  case ignore j => obtain ⟨hj, rfl⟩ := hs; exact .ignore hj
  case promote j => obtain ⟨hj, rfl⟩ := hs; exact .promote hj

theorem count {c c' : Ctx} {op : Op} (h : Step c op c') (x : Job) : c'.allJobs.count x = c.allJobs.count x := by
  rw [count_allJobs, count_allJobs]
  cases h with
  | insert hj e | remove e hj =>
    simp +arith only [e, cnt_append, cnt_cons, List.count_cons, ← count_erase_add x hj]
  | insertNew hj =>
    simp +arith only [cnt_append, cnt_cons, cnt_nil, List.count_singleton, ← count_erase_add x hj]
  | dropRoute e => simp +arith only [e, cnt_append, cnt_cons, List.count_append]
  | finalize | prepare => simp +arith only [List.count_append, List.count_nil]
  | ignore hj | promote hj => simp +arith only [List.count_cons, ← count_erase_add x hj]

end Step

theorem step_part (all : List Job) (c c' : Ctx) (op : Op) (h : Part all c) (hs : step c op = some c') :
    Part all c' :=
  fun x => ((Step.of_step hs).count x).trans (h x)

theorem run_induction {P : Ctx → Prop} (hP : ∀ c c' op, P c → step c op = some c' → P c') (ops : List Op) :
    ∀ c c', P c → run c ops = some c' → P c' := by
  induction ops with
  | nil => intro c c' h hr; cases hr; exact h
  | cons op ops ih =>
    intro c c' h hr
    obtain ⟨c1, hs, hr⟩ := Option.bind_eq_some_iff.mp hr
    exact ih c1 c' (hP c c1 op h hs) hr

theorem run_part (all : List Job) (ops : List Op) : ∀ c c', Part all c → run c ops = some c' → Part all c' :=
  run_induction (fun c c' op => step_part all c c' op) ops

theorem run_append (c : Ctx) (ops ops' : List Op) : run c (ops ++ ops') = (run c ops).bind (run · ops') := by
  induction ops generalizing c with
  | nil => rfl
  | cons op ops ih => cases hs : step c op <;> simp [run, hs, ih]

def Reachable (c c' : Ctx) : Prop := ∃ ops, run c ops = some c'

namespace Reachable

theorem refl (c : Ctx) : Reachable c c := ⟨[], rfl⟩

theorem step {c c' : Ctx} {op : Op} (h : step c op = some c') : Reachable c c' :=
  ⟨[op], by simp [run, h]⟩

theorem trans {c c' c'' : Ctx} : Reachable c c' → Reachable c' c'' → Reachable c c''
  | ⟨ops, h⟩, ⟨ops', h'⟩ => ⟨ops ++ ops', by rw [run_append, h]; exact h'⟩

theorem part {all : List Job} {c c' : Ctx} (h : Part all c) : Reachable c c' → Part all c'
  | ⟨ops, hr⟩ => run_part all ops c c' h hr

end Reachable

end Machine
