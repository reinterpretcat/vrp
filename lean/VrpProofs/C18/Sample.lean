import VrpModel.C18
import VrpProofs.C18.Termination
import Mathlib.Data.List.Rotate
import Mathlib.Algebra.BigOperators.Group.List.Basic
/-!
# C18 — `MinVariation`, sample mode: the ring buffer is the window of the last `sample` generations
-/

namespace C18

/-! ### `check_threshold` does not depend on the order of the rows -/

theorem cvGt_perm {l₁ l₂ : List Rat} (h : l₁.Perm l₂) (th : Rat) : cvGt l₁ th = cvGt l₂ th := by
  have hemp : l₁.isEmpty = l₂.isEmpty := by
    rw [Bool.eq_iff_iff, List.isEmpty_iff_length_eq_zero, List.isEmpty_iff_length_eq_zero, h.length_eq]
  have hmean : meanSlice l₁ = meanSlice l₂ := by rw [meanSlice, meanSlice, hemp, h.sum_eq, h.length_eq]
  have hvm : varianceMean l₁ = varianceMean l₂ := by
    simp only [varianceMean, hmean, h.length_eq, (h.map _).sum_eq]
  rw [cvGt, cvGt, hvm]

theorem checkThreshold_perm {rows₁ rows₂ : List (List Rat)} (h : rows₁.Perm rows₂) (th : Rat) :
    checkThreshold rows₁ th = checkThreshold rows₂ th := by
  rw [Bool.eq_iff_iff, checkThreshold_iff, checkThreshold_iff]
  simp only [h.mem_iff, cvGt_perm (h.filterMap _) th, column]

/-- the buffer after feeding the fitness of generations `g, g+1, …` (one call per generation) -/
def sampleFeed (sample : Nat) (th : Rat) : Option (List (List Rat)) → Nat → List (List Rat) → Option (List (List Rat))
  | st, _, [] => st
  | st, g, f :: fs => sampleFeed sample th (sampleStep sample th st g f).1 (g + 1) fs

/-- after the generations `0 … pre.length - 1`: slot `j % sample` holds generation `j` for each of the last `sample` -/
def BufInv (sample : Nat) (pre : List (List Rat)) (st : Option (List (List Rat))) : Prop :=
  (pre = [] ∧ st = none) ∨
  ∃ buf, st = some buf ∧ buf.length = sample ∧
    ∀ j (hj : j < pre.length), pre.length ≤ j + sample → buf[j % sample]? = some pre[j]

theorem mod_ne_of_close {j g s : Nat} (h1 : j < g) (h2 : g < j + s) : g % s ≠ j % s := fun h =>
  -- equal remainders make `s` divide `g - j`, which lies strictly between `0` and `s`
  have hdvd : s ∣ g - j := Nat.dvd_of_mod_eq_zero (Nat.sub_mod_eq_zero_of_mod_eq h)
  have hlt : g - j < s := Nat.sub_lt_left_of_lt_add (Nat.le_of_lt h1) h2
  Nat.not_le.mpr hlt (Nat.le_of_dvd (Nat.sub_pos_of_lt h1) hdvd)

theorem bufInv_step (sample : Nat) (hs : 0 < sample) (th : Rat) (pre : List (List Rat)) (st : Option (List (List Rat)))
    (f : List Rat) (h : BufInv sample pre st) :
    BufInv sample (pre ++ [f]) (sampleStep sample th st pre.length f).1 := by
  have hlen' : (st.getD (List.replicate sample (List.replicate f.length 0))).length = sample := by
    rcases h with ⟨_, rfl⟩ | ⟨buf, rfl, hlen, _⟩
    · exact List.length_replicate
    · exact hlen
  refine Or.inr ⟨_, rfl, List.length_set.trans hlen', fun j hj hle => ?_⟩
  rw [List.length_append, List.length_singleton] at hj hle
  rcases Nat.lt_succ_iff_lt_or_eq.mp hj with hj' | rfl
  · -- an older generation of the window: its slot is not the one this call writes
    rcases h with ⟨rfl, _⟩ | ⟨buf, rfl, hlen, hb⟩
    · cases hj'
    · rw [Option.getD_some, List.getElem?_set_ne (mod_ne_of_close hj' (Nat.lt_of_succ_le hle)),
        hb j hj' (Nat.le_of_succ_le hle), List.getElem_append_left hj']
  · rw [List.getElem?_set_self (by rw [hlen']; exact Nat.mod_lt _ hs), List.getElem_concat_length rfl]

theorem bufInv_feed (sample : Nat) (hs : 0 < sample) (th : Rat) :
    ∀ (fs pre : List (List Rat)) (st : Option (List (List Rat))), BufInv sample pre st →
      BufInv sample (pre ++ fs) (sampleFeed sample th st pre.length fs)
  | [], pre, st, h => by rwa [List.append_nil, sampleFeed]
  | f :: fs, pre, st, h => by
    have := bufInv_feed sample hs th fs (pre ++ [f]) _ (bufInv_step sample hs th pre st f h)
    rwa [List.append_assoc, List.length_append] at this

theorem buf_perm_window (sample : Nat) (hs : 0 < sample) (all buf : List (List Rat)) (hlen : buf.length = sample)
    (hfull : sample ≤ all.length)
    (hb : ∀ j (hj : j < all.length), all.length ≤ j + sample → buf[j % sample]? = some all[j]) :
    (sampleWindow sample all).Perm buf := by
  have hw : sampleWindow sample all = buf.rotate ((all.length - sample) % sample) := by
    apply List.ext_getElem
    · rw [sampleWindow, List.length_drop, List.length_rotate, hlen, Nat.sub_sub_self hfull]
    · intro i h1 h2
      have hi : i < sample := by rwa [List.length_rotate, hlen] at h2
      have hj : all.length - sample + i < all.length :=
        Nat.lt_of_lt_of_eq (Nat.add_lt_add_left hi _) (Nat.sub_add_cancel hfull)
      have hidx : (i + (all.length - sample) % sample) % sample = (all.length - sample + i) % sample := by
        rw [Nat.add_mod, Nat.mod_mod, ← Nat.add_mod, Nat.add_comm]
      have hlt : (all.length - sample + i) % sample < buf.length := by rw [hlen]; exact Nat.mod_lt _ hs
      have := hb _ hj (by rw [Nat.add_right_comm, Nat.sub_add_cancel hfull]; exact Nat.le_add_right _ _)
      rw [List.getElem?_eq_getElem hlt] at this
      simp only [sampleWindow, List.getElem_drop, List.getElem_rotate, hlen, hidx]
      exact (Option.some.inj this).symm
  rw [hw]
  exact List.rotate_perm _ _

/-- `variation_fires_iff` (sample mode), for a history observed once per generation `0, 1, 2, …`: the ring buffer
    holds the last `sample` generations in rotated order, and the check does not depend on the order; the constructor
    of `MinVariation` asserts `sample ≠ 0` -/
theorem variation_fires_iff_sample (sample : Nat) (hs : 0 < sample) (th : Rat) (hist : List (List Rat)) (f : List Rat) :
    (sampleStep sample th (sampleFeed sample th none 0 hist) hist.length f).2 = sampleSpec sample th (hist ++ [f]) := by
  have hstep := bufInv_step sample hs th hist _ f (bufInv_feed sample hs th hist [] none (Or.inl ⟨rfl, rfl⟩))
  rw [sampleSpec, List.length_append, List.length_singleton]
  by_cases hfull : sample ≤ hist.length + 1
  · rcases hstep with ⟨hp, _⟩ | ⟨buf, hst, hlen, hb⟩
    · exact absurd hp (List.append_ne_nil_of_right_ne_nil _ (List.cons_ne_nil _ _))
    · have hperm := buf_perm_window sample hs (hist ++ [f]) buf hlen
        (by rwa [List.length_append, List.length_singleton]) hb
      have hnot : ¬ hist.length < sample - 1 := Nat.not_lt.mpr (Nat.sub_le_of_le_add hfull)
      rw [decide_eq_true hfull, Bool.true_and, checkThreshold_perm hperm]
      simp only [sampleStep, if_neg hnot] at hst ⊢
      exact congrArg (checkThreshold · th) (Option.some.inj hst)
  · have hlt : hist.length < sample - 1 := Nat.lt_sub_of_add_lt (Nat.lt_of_not_le hfull)
    simp only [sampleStep, if_pos hlt, decide_eq_false hfull, Bool.false_and]

/-- the answer in the property's words -/
theorem variation_fires_iff_sample_cv (sample : Nat) (hs : 0 < sample) (th : Rat) (hth : 0 ≤ th) (hist : List (List Rat))
    (f : List Rat) :
    (sampleStep sample th (sampleFeed sample th none 0 hist) hist.length f).2 = true ↔
      sample ≤ (hist ++ [f]).length ∧
      ∀ idx, (∃ r ∈ sampleWindow sample (hist ++ [f]), idx < r.length) →
        cvLeSpec (column (sampleWindow sample (hist ++ [f])) idx) th = true := by
  rw [variation_fires_iff_sample sample hs th hist f, sampleSpec, Bool.and_eq_true, decide_eq_true_eq,
    checkThreshold_iff_spec _ _ hth]

example : (sampleStep 2 (1 / 10) (sampleFeed 2 (1 / 10) none 0 [[1000], [500], [500]]) 3 [500]).2 = true ∧
    (sampleStep 2 (1 / 10) (sampleFeed 2 (1 / 10) none 0 [[1000]]) 1 [500]).2 = false := by decide +kernel

end C18
