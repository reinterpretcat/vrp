import VrpModel.C18
import VrpProofs.C18.Arith
import Mathlib.Tactic.FieldSimp
import Mathlib.Algebra.Order.Field.Basic
/-!
# C18 — termination estimates, `TargetProximity`, coefficient of variation and `check_threshold`
-/

namespace C18

/-- `estimate_in_unit_interval` (MaxGeneration): `limit > 0` is the arithmetic statement; the `limit = 0` branch of
    the model records that `f64::min(NaN or +∞, 1.)` is `1.` (checked on the real code by the harness) -/
theorem maxGen_estimate_in_unit_interval (limit generation : Nat) :
    0 ≤ maxGenEstimate limit generation ∧ maxGenEstimate limit generation ≤ 1 := by
  unfold maxGenEstimate
  split
  · exact ⟨zero_le_one, le_refl _⟩
  · rw [minR_eq_min]
    exact ⟨le_min (div_nonneg (Nat.cast_nonneg _) (Nat.cast_nonneg _)) zero_le_one, min_le_right _ _⟩

theorem maxGen_estimate_one_iff_stop (limit generation : Nat) (h : 0 < limit) :
    (maxGenEstimate limit generation = 1 ↔ maxGenStop limit generation = true) ∧
    (maxGenStop limit generation = false → maxGenEstimate limit generation = (generation : Rat) / (limit : Rat)) := by
  have hl : (0 : Rat) < (limit : Rat) := Nat.cast_pos.mpr h
  simp only [maxGenEstimate, if_neg h.ne', minR_eq_min, maxGenStop, decide_eq_true_eq, decide_eq_false_iff_not,
    min_eq_right_iff, min_eq_left_iff, one_le_div₀ hl, div_le_one₀ hl, Nat.cast_le, not_le]
  exact ⟨trivial, Nat.le_of_lt⟩

theorem foldl_maxR_le_iff (c : Rat) : ∀ (es : List Rat) (e : Rat), es.foldl maxR e ≤ c ↔ e ≤ c ∧ ∀ x ∈ es, x ≤ c
  | [], e => by simp
  | x :: es, e => by
    rw [List.foldl_cons, foldl_maxR_le_iff c es, maxR_eq_max, max_le_iff, List.forall_mem_cons, and_assoc]

theorem compositeEstimate_le_iff (es : List Rat) (c : Rat) (hc : 0 ≤ c) : compositeEstimate es ≤ c ↔ ∀ e ∈ es, e ≤ c := by
  cases es with
  | nil => simpa [compositeEstimate] using hc
  | cons e es => rw [compositeEstimate, foldl_maxR_le_iff, List.forall_mem_cons]

theorem composite_estimate_is_upper_bound (es : List Rat) : ∀ e ∈ es, e ≤ compositeEstimate es := by
  cases es with
  | nil => exact fun _ h => absurd h List.not_mem_nil
  | cons e es => exact List.forall_mem_cons.mpr ((foldl_maxR_le_iff _ es e).mp (le_refl _))

/-- `estimate_in_unit_interval` (CompositeTermination) -/
theorem composite_estimate_in_unit_interval (es : List Rat) (h : ∀ e ∈ es, 0 ≤ e ∧ e ≤ 1) :
    0 ≤ compositeEstimate es ∧ compositeEstimate es ≤ 1 := by
  refine ⟨?_, (compositeEstimate_le_iff es 1 zero_le_one).mpr fun e he => (h e he).2⟩
  cases es with
  | nil => exact le_refl _
  | cons e es => exact (h e List.mem_cons_self).1.trans (composite_estimate_is_upper_bound _ e List.mem_cons_self)

/-- `MinVariation::estimate` and `TargetProximity::estimate` return the constant `0.`: a composite of `MaxGeneration`
    limits and such parts stays in `[0, 1]` -/
theorem composite_of_maxgen_in_unit_interval (limits : List Nat) (zeros : Nat) (generation : Nat) :
    0 ≤ compositeEstimate (limits.map (fun l => maxGenEstimate l generation) ++ List.replicate zeros 0) ∧
    compositeEstimate (limits.map (fun l => maxGenEstimate l generation) ++ List.replicate zeros 0) ≤ 1 := by
  apply composite_estimate_in_unit_interval
  intro e he
  simp only [List.mem_append, List.mem_map, List.mem_replicate] at he
  rcases he with ⟨l, _, rfl⟩ | ⟨_, rfl⟩
  · exact maxGen_estimate_in_unit_interval l generation
  · exact ⟨le_refl _, zero_le_one⟩

theorem compositeStop_iff (parts : List Bool) : compositeStop parts = true ↔ true ∈ parts := by
  simp [compositeStop]

example : maxGenEstimate 8 2 = 1 / 4 ∧ maxGenEstimate 8 20 = 1 ∧ compositeEstimate [1 / 4, 0, 3 / 4] = 3 / 4 := by decide +kernel

theorem relDistSq_nonneg : ∀ (a b : List Rat), 0 ≤ relDistSq a b
  | [], _ => by simp [relDistSq]
  | _ :: _, [] => by simp [relDistSq]
  | x :: as, y :: bs => by
    rw [relDistSq]
    exact add_nonneg (mul_self_nonneg _) (relDistSq_nonneg as bs)

/-- `TargetProximity` stops exactly when the root of the summed squared relative changes is below the threshold:
    for every `d ≥ 0` with `d² = Σ change²` (the value `relative_distance` returns, up to rounding) -/
theorem targetStop_iff_distance_below (target fitness : List Rat) (th d : Rat) (hd : 0 ≤ d)
    (hdd : d * d = relDistSq target fitness) :
    targetStop target th (some fitness) = true ↔ d < th := by
  simp only [targetStop, Bool.and_eq_true, decide_eq_true_eq, ← hdd]
  exact ⟨fun h => (mul_self_lt_mul_self_iff hd h.1.le).mpr h.2, fun h => ⟨hd.trans_lt h, mul_self_lt_mul_self hd h⟩⟩

theorem targetStop_none (target : List Rat) (th : Rat) : targetStop target th none = false := rfl

example : targetStop [100, 10] (1 / 2) (some [50, 10]) = false ∧ targetStop [100, 10] (3 / 4) (some [50, 10]) = true := by
  decide +kernel

theorem meanSlice_eq (vs : List Rat) (h : vs ≠ []) : meanSlice vs = vs.sum / (vs.length : Rat) := by
  rw [meanSlice, if_neg (by simpa using h)]

/-- the code's two-accumulator formula is the population variance: the second accumulator `Σ (v - mean)` vanishes -/
theorem varianceMean_eq (vs : List Rat) (h : vs ≠ []) :
    (varianceMean vs).2 = vs.sum / (vs.length : Rat) ∧
    (varianceMean vs).1 = (vs.map (fun v => v * v)).sum / (vs.length : Rat) -
      (vs.sum / (vs.length : Rat)) * (vs.sum / (vs.length : Rat)) ∧
    0 ≤ (varianceMean vs).1 := by
  have hn : (0 : Rat) < (vs.length : Rat) := Nat.cast_pos.mpr (List.length_pos_of_ne_nil h)
  have hm := meanSlice_eq vs h
  have hsecond : (vs.map (fun v => v - meanSlice vs)).sum = 0 := by
    rw [sum_map_sub_const, hm, mul_div_cancel₀ _ hn.ne', sub_self]
  have hfirst : (varianceMean vs).1 = (vs.map (fun v => (v - meanSlice vs) * (v - meanSlice vs))).sum / (vs.length : Rat) := by
    simp only [varianceMean, hsecond, zero_mul, zero_div, sub_zero]
  refine ⟨hm, ?_, hfirst ▸ div_nonneg (sum_sq_dev_nonneg _ vs) hn.le⟩
  rw [hfirst, sum_sq_dev_expand, hm]
  field_simp
  ring

/-- `cvGt` decides `sqrt(variance) / mean > threshold` without taking the root: for every `σ ≥ 0` with `σ² = variance` -/
theorem cvGt_iff_sqrt (vs : List Rat) (th σ : Rat) (hσ : 0 ≤ σ) (hσσ : σ * σ = (varianceMean vs).1)
    (hm : (varianceMean vs).2 ≠ 0) : cvGt vs th = true ↔ th < σ / (varianceMean vs).2 := by
  -- the squares compared by the model are those of `th * mean` and `σ`
  have hsq : th * th * ((varianceMean vs).2 * (varianceMean vs).2) = th * (varianceMean vs).2 * (th * (varianceMean vs).2) :=
    mul_mul_mul_comm _ _ _ _
  simp only [cvGt, if_neg hm, ← hσσ, hsq]
  rcases lt_or_gt_of_ne hm with hneg | hpos
  · rw [if_neg hneg.not_gt, lt_div_iff_of_neg hneg]
    split
    · rename_i hth
      rw [decide_eq_true_eq, ← mul_self_lt_mul_self_iff hσ (mul_pos_of_neg_of_neg hth hneg).le]
    · rename_i hth
      exact iff_of_false Bool.false_ne_true
        (not_lt.mpr ((mul_nonpos_of_nonneg_of_nonpos (not_lt.mp hth) hneg.le).trans hσ))
  · rw [if_pos hpos, lt_div_iff₀ hpos]
    split
    · rename_i hth
      exact iff_of_true rfl ((mul_neg_of_neg_of_pos hth hpos).trans_le hσ)
    · rename_i hth
      rw [decide_eq_true_eq, ← mul_self_lt_mul_self_iff (mul_nonneg (not_lt.mp hth) hpos.le) hσ]

theorem cvGt_eq_not_spec (vs : List Rat) (th : Rat) (hth : 0 ≤ th) : cvGt vs th = !cvLeSpec vs th := by
  have hth' : ¬ th < 0 := not_lt.mpr hth
  by_cases h : vs = []
  · subst h
    simp [cvGt, cvLeSpec, varianceMean, meanSlice, hth']
  · obtain ⟨hmean, hvar, _⟩ := varianceMean_eq vs h
    simp only [cvGt, cvLeSpec, hmean, hvar, List.isEmpty_eq_false_iff.mpr h, if_neg hth', Bool.false_eq_true, if_false]
    rcases lt_trichotomy (vs.sum / (vs.length : Rat)) 0 with hm | hm | hm
    · rw [if_neg hm.ne, if_neg hm.not_gt, if_pos hm.le]; rfl
    · rw [if_pos hm, if_pos hm.le, decide_eq_false hth']; rfl
    · -- positive mean: `cv > th` compares `th²·mean² < var`, the SPEC its negation `var ≤ th²·mean²`
      rw [if_neg hm.ne', if_pos hm, if_neg hm.not_ge]; simp only [← not_le, decide_not]

theorem lt_foldl_max (idx : Nat) : ∀ (rows : List (List Rat)) (m : Nat),
    idx < rows.foldl (fun m r => max m r.length) m ↔ idx < m ∨ ∃ r ∈ rows, idx < r.length
  | [], m => by simp
  | r :: rows, m => by
    rw [List.foldl_cons, lt_foldl_max idx rows, lt_max_iff, or_assoc, List.exists_mem_cons_iff]

theorem lt_maxLen_iff (rows : List (List Rat)) (idx : Nat) : idx < maxLen rows ↔ ∃ r ∈ rows, idx < r.length := by
  simp only [maxLen, lt_foldl_max, Nat.not_lt_zero, false_or]

theorem checkThreshold_iff (rows : List (List Rat)) (th : Rat) :
    checkThreshold rows th = true ↔ ∀ idx, (∃ r ∈ rows, idx < r.length) → cvGt (column rows idx) th = false := by
  simp only [checkThreshold, List.all_eq_true, List.mem_range, lt_maxLen_iff, Bool.not_eq_true']

theorem checkThreshold_iff_spec (rows : List (List Rat)) (th : Rat) (hth : 0 ≤ th) :
    checkThreshold rows th = true ↔ ∀ idx, (∃ r ∈ rows, idx < r.length) → cvLeSpec (column rows idx) th = true := by
  simp only [checkThreshold_iff, cvGt_eq_not_spec _ _ hth, Bool.not_eq_false']

example : cvGt [1000, 500, 1] (1 / 100) = true ∧ cvGt [7, 7, 7] 0 = false ∧ cvLeSpec [1, 3] (1 / 2) = true := by
  decide +kernel

end C18
