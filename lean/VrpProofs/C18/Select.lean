import VrpModel.C18
import Mathlib.Algebra.Order.Ring.Rat
/-!
# C18 — `random_argmax` and `weighted` (`random.rs`): every random oracle gives a valid index
-/

namespace C18

/-- the fold state points at a maximal element of the values seen so far -/
def AmOk (pre : List Int) (st : AmState) : Prop :=
  pre[st.idx]? = some st.key ∧ ∀ k ∈ pre, k ≤ st.key

theorem amStep_ok (draw : Nat → Nat) (pre : List Int) (st : AmState) (k : Int) (h : AmOk pre st) :
    AmOk (pre ++ [k]) (amStep draw st pre.length k) := by
  obtain ⟨h1, h2⟩ := h
  have hlt : st.idx < pre.length := (List.getElem?_eq_some_iff.mp h1).1
  have keep : k ≤ st.key → ∀ c, AmOk (pre ++ [k]) { st with count := c } := fun hk c =>
    ⟨(List.getElem?_append_left hlt).trans h1, fun k' hk' =>
      (List.mem_append.mp hk').elim (h2 k') fun h => List.mem_singleton.mp h ▸ hk⟩
  have take : st.key ≤ k → ∀ c, AmOk (pre ++ [k]) { idx := pre.length, key := k, count := c } := fun hk c =>
    ⟨List.getElem?_concat_length, fun k' hk' =>
      (List.mem_append.mp hk').elim (fun h => (h2 k' h).trans hk) fun h => (List.mem_singleton.mp h).le⟩
  unfold amStep
  split
  · rename_i heq
    have := compare_eq_iff_eq.mp heq
    dsimp only
    split
    · exact take this.le _
    · exact keep this.ge _
  · rename_i hc
    exact take (compare_lt_iff_lt.mp hc).le _
  · rename_i hc
    exact keep (compare_gt_iff_gt.mp hc).le st.count

theorem amFold_ok (draw : Nat → Nat) : ∀ (suf pre : List Int) (st : AmState), AmOk pre st →
    AmOk (pre ++ suf) (amFold draw st pre.length suf)
  | [], pre, st, h => by rwa [List.append_nil, amFold]
  | k :: suf, pre, st, h => by
    have := amFold_ok draw suf (pre ++ [k]) _ (amStep_ok draw pre st k h)
    rwa [List.append_assoc, List.length_append] at this

/-- the values are the `f64::total_cmp` keys; `None` only for the empty list is `argmax_none_iff` -/
theorem argmax_in_range (draw : Nat → Nat) (ks : List Int) (h : ks ≠ []) :
    ∃ i, randomArgmax draw ks = some i ∧ i < ks.length ∧ ∀ k ∈ ks, k ≤ ks.getD i 0 := by
  cases ks with
  | nil => exact absurd rfl h
  | cons k0 ks =>
    obtain ⟨h1, h2⟩ := amFold_ok draw ks [k0] { idx := 0, key := k0, count := 0 }
      ⟨rfl, fun k hk => (List.mem_singleton.mp hk).le⟩
    refine ⟨_, rfl, (List.getElem?_eq_some_iff.mp h1).1, ?_⟩
    rw [List.getD_eq_getElem?_getD]
    exact h1 ▸ h2

theorem argmax_none_iff (draw : Nat → Nat) (ks : List Int) : randomArgmax draw ks = none ↔ ks = [] := by
  cases ks <;> simp [randomArgmax]

theorem argmax_mem_argmaxSet (draw : Nat → Nat) (ks : List Int) (i : Nat) (h : randomArgmax draw ks = some i) :
    i ∈ argmaxSet ks := by
  have hne : ks ≠ [] := fun hc => by rw [(argmax_none_iff draw ks).mpr hc] at h; cases h
  obtain ⟨i', hi', hlt, hmax⟩ := argmax_in_range draw ks hne
  cases hi'.symm.trans h
  simp only [argmaxSet, List.mem_filter, List.mem_range, List.all_eq_true, decide_eq_true_eq]
  exact ⟨hlt, hmax⟩

example : randomArgmax (fun _ => 0) [1, 5, 3, 5, 5] = some 4 ∧ randomArgmax (fun _ => 1) [1, 5, 3, 5, 5] = some 1 := by decide

theorem keyGt_le_trans (a b c : Option Rat) (h1 : keyGt a b = false) (h2 : keyGt b c = false) : keyGt a c = false := by
  cases a <;> cases b <;> cases c <;> simp_all [keyGt]
  -- left: three finite keys with `a ≤ b` and `b ≤ c`
  exact le_trans ‹_› ‹_›

theorem keyGt_asymm {a b : Option Rat} (h : keyGt a b = true) : keyGt b a = false := by
  cases a <;> cases b <;> simp_all [keyGt, le_of_lt]

theorem keyGt_self (a : Option Rat) : keyGt a a = false := by
  cases a <;> simp [keyGt]

/-- the fold state of `min_by`: the index of a seen weight and its key, minimal among the keys seen; index 0 unless a
    finite key was seen -/
def WOk (draw : Nat → Rat) (pre : List Nat) (best : Nat × Option Rat) : Prop :=
  (∃ w, pre[best.1]? = some w ∧ best.2 = wKey draw best.1 w) ∧
  (∀ j w, pre[j]? = some w → keyGt best.2 (wKey draw j w) = false) ∧
  (best.1 = 0 ∨ ∃ q, best.2 = some q)

theorem wFold_ok (draw : Nat → Rat) : ∀ (suf pre : List Nat) (best : Nat × Option Rat), WOk draw pre best →
    ∃ b, WOk draw (pre ++ suf) b ∧ wFold draw best pre.length suf = b.1
  | [], pre, best, h => ⟨best, by rwa [List.append_nil], rfl⟩
  | w :: suf, pre, best, h => by
    obtain ⟨⟨w0, hw0, hkey⟩, h3, h4⟩ := h
    have hlt : best.1 < pre.length := (List.getElem?_eq_some_iff.mp hw0).1
    have hsplit : ∀ {j w'}, (pre ++ [w])[j]? = some w' → pre[j]? = some w' ∨ (j = pre.length ∧ w' = w) := by
      intro j w' hj
      rcases Nat.lt_trichotomy j pre.length with hlt | rfl | hgt
      · exact Or.inl ((List.getElem?_append_left hlt).symm.trans hj)
      · exact Or.inr ⟨rfl, (Option.some.inj (List.getElem?_concat_length.symm.trans hj)).symm⟩
      · rw [List.getElem?_eq_none (by rw [List.length_append, List.length_singleton]; exact hgt)] at hj
        cases hj
    have hstep : WOk draw (pre ++ [w])
        (if keyGt best.2 (wKey draw pre.length w) then (pre.length, wKey draw pre.length w) else best) := by
      split
      · rename_i hgt
        refine ⟨⟨w, List.getElem?_concat_length, rfl⟩, fun j w' hj => ?_, Or.inr ?_⟩
        · rcases hsplit hj with hj | ⟨rfl, rfl⟩
          · exact keyGt_le_trans _ _ _ (keyGt_asymm hgt) (h3 j w' hj)
          · exact keyGt_self _
        · cases hk : wKey draw pre.length w with
          | none => rw [hk] at hgt; cases hb : best.2 <;> simp [hb, keyGt] at hgt
          | some q => exact ⟨q, rfl⟩
      · rename_i hgt
        refine ⟨⟨w0, (List.getElem?_append_left hlt).trans hw0, hkey⟩, fun j w' hj => ?_, h4⟩
        rcases hsplit hj with hj | ⟨rfl, rfl⟩
        · exact h3 j w' hj
        · exact Bool.eq_false_iff.mpr hgt
    have := wFold_ok draw suf (pre ++ [w]) _ hstep
    rwa [List.append_assoc, List.length_append] at this

theorem weighted_in_range (draw : Nat → Rat) (ws : List Nat) (h : ws ≠ []) :
    ∃ i, weighted draw ws = some i ∧ i < ws.length ∧ ((∃ w ∈ ws, 0 < w) → 0 < ws.getD i 0) ∧
      ((∀ w ∈ ws, w = 0) → i = 0) := by
  cases ws with
  | nil => exact absurd rfl h
  | cons w0 ws =>
    obtain ⟨b, ⟨⟨wb, hwb, hkey⟩, h3, h4⟩, hb⟩ := wFold_ok draw ws [w0] (0, wKey draw 0 w0)
      ⟨⟨w0, rfl, rfl⟩, fun j w hj => (by
        cases j with
        | zero => cases hj; exact keyGt_self _
        | succ j => cases hj), Or.inl rfl⟩
    refine ⟨b.1, congrArg some hb, (List.getElem?_eq_some_iff.mp hwb).1, ?_, fun hall => ?_⟩
    · rintro ⟨w, hw, hpos⟩
      obtain ⟨j, hj, rfl⟩ := List.getElem_of_mem hw
      have hle := h3 j _ (List.getElem?_eq_getElem hj)
      rw [List.getD_eq_getElem?_getD, show (w0 :: ws)[b.1]? = some wb from hwb, Option.getD_some]
      -- a zero weight has the key `+∞`, which is greater than the finite key of a positive weight
      by_contra hcon
      rw [hkey, Nat.eq_zero_of_not_pos hcon, wKey, if_pos rfl, wKey, if_neg (Nat.ne_of_gt hpos)] at hle
      cases hle
    · rcases h4 with h4 | ⟨q, hq⟩
      · exact h4
      · rw [hkey, hall wb (List.mem_of_getElem? hwb), wKey, if_pos rfl] at hq
        cases hq

theorem weighted_none_iff (draw : Nat → Rat) (ws : List Nat) : weighted draw ws = none ↔ ws = [] := by
  cases ws <;> simp [weighted]

example : weighted (fun _ => 1) [0, 3, 1, 3] = some 1 := by decide +kernel

end C18
