import VrpModel.C18
import VrpProofs.C18.Arith
import Mathlib.Algebra.Order.BigOperators.Group.List
import Mathlib.Tactic.FieldSimp
import Mathlib.Data.List.Induction
/-!
# C18 — the slot machine (`slot_machine.rs`): learning state under every reward history
-/

namespace C18

structure Slot.Inv (s : Slot) : Prop where
  alpha_eq : s.alpha = 1 + (s.n : Rat) / 2
  beta_ge : 10 ≤ s.beta
  v_eq : s.v = s.beta / (s.alpha + 1)

theorem Slot.init_inv (p : Rat) : (Slot.init p).Inv := by
  constructor <;> simp [Slot.init]

theorem Slot.beta_le_update (s : Slot) (r : Rat) : s.beta ≤ (s.update r).beta := by
  have hw : (0 : Rat) ≤ 1 * (s.n : Rat) / ((s.n : Rat) + 1) :=
    div_nonneg (mul_nonneg zero_le_one (Nat.cast_nonneg _)) (add_nonneg (Nat.cast_nonneg _) zero_le_one)
  exact le_add_of_nonneg_right (div_nonneg (mul_nonneg hw (mul_self_nonneg _)) zero_le_two)

theorem Slot.update_inv (s : Slot) (r : Rat) (h : s.Inv) : (s.update r).Inv where
  alpha_eq := by simp only [Slot.update, h.alpha_eq]; push_cast; ring
  beta_ge := h.beta_ge.trans (s.beta_le_update r)
  v_eq := rfl

theorem Slot.update_n (s : Slot) (r : Rat) : (s.update r).n = s.n + 1 := rfl

theorem Slot.update_mu_mul (s : Slot) (r : Rat) : (s.update r).mu * ((s.n : Rat) + 1) = s.mu * (s.n : Rat) + r := by
  simp only [Slot.update, Nat.cast_succ]
  rw [add_mul, div_mul_cancel₀ _ (Nat.cast_add_one_ne_zero s.n)]
  ring

theorem Slot.run_snoc (p : Rat) (rs : List Rat) (r : Rat) : Slot.run p (rs ++ [r]) = (Slot.run p rs).update r := by
  simp [Slot.run, List.foldl_append]

theorem Slot.run_n (p : Rat) (rs : List Rat) : (Slot.run p rs).n = rs.length := by
  induction rs using List.reverseRecOn with
  | nil => rfl
  | append_singleton rs r ih => rw [Slot.run_snoc, Slot.update_n, ih, List.length_append, List.length_singleton]

theorem Slot.run_inv (p : Rat) (rs : List Rat) : (Slot.run p rs).Inv := by
  induction rs using List.reverseRecOn with
  | nil => exact Slot.init_inv p
  | append_singleton rs r ih => rw [Slot.run_snoc]; exact Slot.update_inv _ r ih

/-- the prior is forgotten by the first update (`mu += (reward - mu) / 1`) -/
theorem Slot.run_mu_mul (p : Rat) (rs : List Rat) (h : rs ≠ []) :
    (Slot.run p rs).mu * (rs.length : Rat) = rs.sum := by
  induction rs using List.reverseRecOn with
  | nil => exact absurd rfl h
  | append_singleton rs r ih =>
    have hstep := Slot.update_mu_mul (Slot.run p rs) r
    rw [Slot.run_n] at hstep
    rw [Slot.run_snoc, List.length_append, List.length_singleton, Nat.cast_succ, hstep, List.sum_append, List.sum_singleton]
    by_cases hrs : rs = []
    · subst hrs; simp
    · rw [ih hrs]

theorem cast_length_ne_zero {rs : List Rat} (h : rs ≠ []) : (rs.length : Rat) ≠ 0 :=
  Nat.cast_ne_zero.mpr (List.length_pos_of_ne_nil h).ne'

theorem Slot.run_mu_eq_mean (p : Rat) (rs : List Rat) (h : rs ≠ []) : (Slot.run p rs).mu = meanOf rs :=
  (eq_div_iff (cast_length_ne_zero h)).mpr (Slot.run_mu_mul p rs h)

theorem mean_inHull (rs : List Rat) (h : rs ≠ []) : inHull rs (meanOf rs) = true := by
  -- the list and the constant list of its mean have the same sum, so neither lies below the other everywhere
  have hm : (rs.map fun _ => meanOf rs).sum = (rs.map fun r => r).sum := by
    rw [List.map_const', List.sum_replicate, nsmul_eq_mul, List.map_id', mul_comm]
    exact div_mul_cancel₀ _ (cast_length_ne_zero h)
  simp only [inHull, Bool.and_eq_true, List.any_eq_true, decide_eq_true_eq]
  exact ⟨List.exists_le_of_sum_le h _ _ hm.ge, List.exists_le_of_sum_le h _ _ hm.le⟩

theorem Slot.run_mu_bounds (p : Rat) (rs : List Rat) (h : rs ≠ []) (lo hi : Rat)
    (hlo : ∀ r ∈ rs, lo ≤ r) (hhi : ∀ r ∈ rs, r ≤ hi) :
    lo ≤ (Slot.run p rs).mu ∧ (Slot.run p rs).mu ≤ hi := by
  have hh := mean_inHull rs h
  simp only [inHull, Bool.and_eq_true, List.any_eq_true, decide_eq_true_eq] at hh
  obtain ⟨⟨a, ha, hal⟩, b, hb, hbl⟩ := hh
  rw [Slot.run_mu_eq_mean p rs h]
  exact ⟨(hlo a ha).trans hal, hbl.trans (hhi b hb)⟩

theorem Slot.Inv.alpha_pos {s : Slot} (h : s.Inv) : 0 < s.alpha :=
  h.alpha_eq ▸ add_pos_of_pos_of_nonneg one_pos (div_nonneg (Nat.cast_nonneg _) zero_le_two)

/-- `g` is what the gamma sampler returned; a zero precision (or an untried slot) is replaced by `0.001`, i.e.
    variance `1000` -/
theorem Slot.Inv.sample_guard {s : Slot} (h : s.Inv) (g : Rat) (hg : 0 ≤ g) :
    0 < (s.sample g).shape ∧ 0 < (s.sample g).scale ∧ 0 < (s.sample g).variance ∧ (s.sample g).mean = s.mu ∧
    ((g = 0 ∨ s.n = 0) → (s.sample g).variance = 1000) ∧ ((g ≠ 0 ∧ s.n ≠ 0) → (s.sample g).variance = 1 / g) := by
  simp only [Slot.sample]
  refine ⟨h.alpha_pos, one_div_pos.mpr (lt_of_lt_of_le (by norm_num) h.beta_ge), ?_, trivial, fun h => ?_, fun h => ?_⟩
  · split
    · norm_num
    · rename_i hcon
      exact one_div_pos.mpr (lt_of_le_of_ne hg (Ne.symm (not_or.mp hcon).1))
  · rw [if_pos h]; norm_num
  · rw [if_neg (not_or.mpr h)]

/-- `alpha` is the shape, `beta` the rate (prior `10`), `v` the variance estimate of `SlotMachine` -/
theorem slot_inv (prior : Rat) (rs : List Rat) :
    (Slot.run prior rs).n = rs.length ∧
    (Slot.run prior rs).alpha = 1 + (rs.length : Rat) / 2 ∧ 0 < (Slot.run prior rs).alpha ∧
    10 ≤ (Slot.run prior rs).beta ∧ 0 < (Slot.run prior rs).v ∧
    (rs ≠ [] → (Slot.run prior rs).mu = meanOf rs ∧ inHull rs (Slot.run prior rs).mu = true) := by
  have hinv := Slot.run_inv prior rs
  have hn := Slot.run_n prior rs
  have ha : (Slot.run prior rs).alpha = 1 + (rs.length : Rat) / 2 := by rw [hinv.alpha_eq, hn]
  refine ⟨hn, ha, hinv.alpha_pos, hinv.beta_ge, ?_, fun hne => ?_⟩
  · rw [hinv.v_eq]
    exact div_pos (lt_of_lt_of_le (by norm_num) hinv.beta_ge) (add_pos hinv.alpha_pos one_pos)
  · rw [Slot.run_mu_eq_mean prior rs hne]
    exact ⟨rfl, mean_inHull rs hne⟩

theorem slot_beta_monotone (prior : Rat) (rs more : List Rat) :
    (Slot.run prior rs).beta ≤ (Slot.run prior (rs ++ more)).beta := by
  induction more using List.reverseRecOn with
  | nil => rw [List.append_nil]
  | append_singleton more r ih =>
    rw [← List.append_assoc, Slot.run_snoc]
    exact le_trans ih (Slot.beta_le_update _ r)

theorem sample_guard (prior : Rat) (rs : List Rat) (g : Rat) (hg : 0 ≤ g) :
    0 < ((Slot.run prior rs).sample g).shape ∧ 0 < ((Slot.run prior rs).sample g).scale ∧
    0 < ((Slot.run prior rs).sample g).variance ∧ ((Slot.run prior rs).sample g).mean = (Slot.run prior rs).mu ∧
    ((g = 0 ∨ rs = []) → ((Slot.run prior rs).sample g).variance = 1000) ∧
    ((g ≠ 0 ∧ rs ≠ []) → ((Slot.run prior rs).sample g).variance = 1 / g) := by
  have hn0 : (Slot.run prior rs).n = 0 ↔ rs = [] := by rw [Slot.run_n]; exact List.length_eq_zero_iff
  simpa only [ne_eq, hn0] using (Slot.run_inv prior rs).sample_guard g hg

theorem sqDev_eq (rs : List Rat) (h : rs ≠ []) :
    sqDev rs = (rs.map (fun v => v * v)).sum - rs.sum * rs.sum / (rs.length : Rat) := by
  have hlen := cast_length_ne_zero h
  rw [sqDev, sum_sq_dev_expand, meanOf]
  field_simp
  ring

/-- Welford's identity for appending one value `r` to `n` values with sum `S` and sum of squares `Q` -/
theorem welford_step (Q S r n : Rat) (hn : n ≠ 0) (hn1 : n + 1 ≠ 0) :
    Q - S * S / n + 1 * n / (n + 1) * ((r - S / n) * (r - S / n)) = Q + r * r - (S + r) * (S + r) / (n + 1) := by
  field_simp
  ring

theorem slot_beta_welford (prior : Rat) (rs : List Rat) :
    (Slot.run prior rs).beta = 10 + (if rs = [] then 0 else sqDev rs) / 2 := by
  induction rs using List.reverseRecOn with
  | nil => simp [Slot.run, Slot.init]
  | append_singleton rs r ih =>
    have hne : rs ++ [r] ≠ [] := List.append_ne_nil_of_right_ne_nil _ (List.cons_ne_nil _ _)
    rw [Slot.run_snoc, if_neg hne, sqDev_eq _ hne]
    simp only [Slot.update, Slot.run_n, ih]
    by_cases hrs : rs = []
    · subst hrs
      simp
    · simp only [if_neg hrs, sqDev_eq _ hrs, Slot.run_mu_eq_mean prior rs hrs, meanOf, List.map_append, List.sum_append,
        List.map_cons, List.map_nil, List.sum_cons, List.sum_nil, add_zero, List.length_append, List.length_singleton,
        Nat.cast_succ, ← welford_step _ _ r _ (cast_length_ne_zero hrs) (Nat.cast_add_one_ne_zero _)]
      ring

theorem sqDev_nonneg (rs : List Rat) : 0 ≤ sqDev rs := sum_sq_dev_nonneg (meanOf rs) rs

example : (Slot.run 0 [1, 3, 5 / 2]).mu = 13 / 6 ∧ (Slot.run 0 [1, 3, 5 / 2]).beta = 133 / 12 := by
  decide +kernel
example : inHull [1, 3, 5 / 2] (13 / 6) = true := by
  decide +kernel

end C18
