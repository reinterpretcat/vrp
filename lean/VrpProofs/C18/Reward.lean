import VrpModel.C18
import VrpProofs.C18.Arith
import Mathlib.Tactic.Linarith
/-!
# C18 — reward arithmetic of `dynamic_selective.rs`: true range, documented range (S26), multiplier range
-/

namespace C18

theorem relChange_eq (a b : Rat) : relChange a b = |a - b| / max |a| |b| := by
  simp only [relChange, absR_eq_abs, maxR_eq_max]

theorem relChange_nonneg (a b : Rat) : 0 ≤ relChange a b := by
  rw [relChange_eq]
  exact div_nonneg (abs_nonneg _) (le_max_of_le_left (abs_nonneg a))

theorem relChange_pos {a b : Rat} (h : a ≠ b) : 0 < relChange a b := by
  rw [relChange_eq]
  have h1 : 0 < |a - b| := abs_pos.mpr (sub_ne_zero.mpr h)
  refine div_pos h1 ?_
  linarith [abs_sub a b, le_max_left |a| |b|, le_max_right |a| |b|]

/-- so the two `assert_ne!` on `total_objectives` and the `expect` on `nth(idx)` in `get_relative_distance`, which
    `relDistance` leaves out, cannot fire -/
theorem firstDiff_spec : ∀ (a b : List Rat) (idx : Nat), firstDiff a b = some idx →
    idx < a.length ∧ idx < b.length ∧ a.getD idx 0 ≠ b.getD idx 0
  | [], _, idx, h => by simp [firstDiff] at h
  | _ :: _, [], idx, h => by simp [firstDiff] at h
  | x :: as, y :: bs, idx, h => by
    rw [firstDiff] at h
    split at h
    · cases h; exact ⟨Nat.succ_pos _, Nat.succ_pos _, ‹x ≠ y›⟩
    · obtain ⟨i, hi, rfl⟩ := Option.map_eq_some_iff.mp h
      obtain ⟨h1, h2, h3⟩ := firstDiff_spec as bs i hi
      exact ⟨Nat.succ_lt_succ h1, Nat.succ_lt_succ h2, h3⟩

theorem firstDiff_of_lexOrder_ne_eq : ∀ (a b : List Rat), lexOrder a b ≠ .eq → firstDiff a b ≠ none
  | [], _, h => by simp [lexOrder] at h
  | _ :: _, [], h => by simp [lexOrder] at h
  | x :: as, y :: bs, h => by
    rw [firstDiff]
    split
    · simp
    · rename_i hxy
      rw [not_not] at hxy
      subst hxy
      rw [lexOrder, if_neg (lt_irrefl x), if_neg (lt_irrefl x)] at h
      simpa using firstDiff_of_lexOrder_ne_eq as bs h

/-- the relative change at the first differing objective, amplified by the number of objectives from there on
    (`0` for vectors without a difference): `get_relative_distance` up to the sign -/
def relMagnitude (a b : List Rat) : Rat :=
  match firstDiff a b with
  | none => 0
  | some idx => relChange (a.getD idx 0) (b.getD idx 0) * ((a.length - idx : Nat) : Rat)

theorem relDistance_eq (ord : Ordering) (a b : List Rat) :
    relDistance ord a b = match ord with
      | .lt => relMagnitude a b
      | .eq => 0
      | .gt => -relMagnitude a b := by
  cases ord <;> cases h : firstDiff a b <;> simp [relDistance, relMagnitude, h]

theorem relMagnitude_pos {a b : List Rat} (h : firstDiff a b ≠ none) : 0 < relMagnitude a b := by
  unfold relMagnitude
  cases hf : firstDiff a b with
  | none => exact absurd hf h
  | some idx =>
    obtain ⟨h1, _, h3⟩ := firstDiff_spec a b idx hf
    exact mul_pos (relChange_pos h3) (Nat.cast_pos.mpr (Nat.sub_pos_of_lt h1))

theorem relMagnitude_le (a b : List Rat) (c : Rat) (hc : 0 ≤ c) (hchg : ∀ i, relChange (a.getD i 0) (b.getD i 0) ≤ c) :
    0 ≤ relMagnitude a b ∧ relMagnitude a b ≤ c * (a.length : Rat) := by
  unfold relMagnitude
  cases firstDiff a b with
  | none => exact ⟨le_refl _, mul_nonneg hc (Nat.cast_nonneg _)⟩
  | some idx =>
    exact ⟨mul_nonneg (relChange_nonneg _ _) (Nat.cast_nonneg _),
      mul_le_mul (hchg idx) (Nat.cast_le.mpr (Nat.sub_le _ _)) (Nat.cast_nonneg _) hc⟩

/-- `get_relative_distance` stays within `[-c·N, c·N]` when every relative change is at most `c`
    (`c = 1` for same-sign values — the function's documented `[-N, N]` —, `c = 2` in general) -/
theorem relDistance_abs_le (ord : Ordering) (a b : List Rat) (c : Rat) (hc : 0 ≤ c)
    (hchg : ∀ i, relChange (a.getD i 0) (b.getD i 0) ≤ c) : |relDistance ord a b| ≤ c * (a.length : Rat) := by
  obtain ⟨h0, h1⟩ := relMagnitude_le a b c hc hchg
  rw [relDistance_eq]
  cases ord
  · exact (abs_of_nonneg h0).trans_le h1
  · exact abs_zero.trans_le (h0.trans h1)
  · exact ((abs_neg _).trans (abs_of_nonneg h0)).trans_le h1

theorem relChange_le_one {a b : Rat} (ha : 0 ≤ a) (hb : 0 ≤ b) : relChange a b ≤ 1 := by
  rw [relChange_eq, abs_of_nonneg ha, abs_of_nonneg hb]
  exact div_le_one_of_le₀ (abs_sub_le_of_nonneg_of_le ha (le_max_left a b) hb (le_max_right a b))
    (le_max_of_le_left ha)

theorem relChange_le_two (a b : Rat) : relChange a b ≤ 2 := by
  rw [relChange_eq]
  refine div_le_of_le_mul₀ (le_max_of_le_left (abs_nonneg a)) zero_le_two ?_
  linarith [abs_sub a b, le_max_left |a| |b|, le_max_right |a| |b|]

def NonNeg (a : List Rat) : Prop := ∀ x ∈ a, 0 ≤ x

theorem NonNeg.getD {a : List Rat} (h : NonNeg a) (i : Nat) : 0 ≤ a.getD i 0 := by
  rw [List.getD_eq_getElem?_getD]
  cases hi : a[i]? with
  | none => exact le_refl _
  | some x => exact h x (List.mem_of_getElem? hi)

/-- the documented reading of `get_relative_distance`: positive iff `a` is better than `b`, negative iff worse, zero iff
    equal — for the lexicographic order of the harness objective -/
theorem relDistance_sign (a b : List Rat) :
    (lexOrder a b = .lt → 0 < relDistance (lexOrder a b) a b) ∧
    (lexOrder a b = .gt → relDistance (lexOrder a b) a b < 0) ∧
    (lexOrder a b = .eq → relDistance (lexOrder a b) a b = 0) := by
  have hpos : lexOrder a b ≠ .eq → 0 < relMagnitude a b := fun h => relMagnitude_pos (firstDiff_of_lexOrder_ne_eq a b h)
  rw [relDistance_eq]
  cases h : lexOrder a b
  · exact ⟨fun _ => hpos (by simp [h]), nofun, nofun⟩
  · exact ⟨nofun, nofun, fun _ => rfl⟩
  · exact ⟨nofun, fun _ => neg_neg_of_pos (hpos (by simp [h])), nofun⟩

theorem distanceReward_pos_iff (order : List Rat → List Rat → Ordering) (best initial new : List Rat) :
    0 < distanceReward order (some best) initial new ↔ 0 < relDistance (order new initial) new initial := by
  simp only [distanceReward]
  constructor
  · intro h
    by_contra hle
    rw [if_neg fun hc => hle hc.1, if_neg hle] at h
    exact lt_irrefl _ h
  · intro hpos
    split
    · rename_i hc; linarith [hc.2]
    · linarith

theorem reward_pos_iff_improves_parent (best initial new : List Rat) :
    0 < distanceReward lexOrder (some best) initial new ↔ lexOrder new initial = .lt := by
  obtain ⟨hlt, hgt, heq⟩ := relDistance_sign new initial
  rw [distanceReward_pos_iff]
  refine ⟨fun h => ?_, hlt⟩
  cases ho : lexOrder new initial with
  | lt => rfl
  | eq => exact absurd (heq ho) h.ne'
  | gt => exact absurd h (hgt ho).not_gt

theorem distanceReward_le (order : List Rat → List Rat → Ordering) (best : Option (List Rat)) (initial new : List Rat)
    (D : Rat) (hD : 0 ≤ D) (hI : relDistance (order new initial) new initial ≤ D)
    (hB : ∀ bk, best = some bk → relDistance (order new bk) new bk ≤ D) :
    0 ≤ distanceReward order best initial new ∧ distanceReward order best initial new ≤ 3 * (D + 1) := by
  unfold distanceReward
  cases best with
  | none => exact ⟨le_refl _, by linarith⟩
  | some bk =>
    have hB' := hB bk rfl
    dsimp only
    split
    · rename_i h; constructor <;> linarith [h.1, h.2]
    · split
      · constructor <;> linarith
      · exact ⟨le_refl _, by linarith⟩

/-- For non-negative (same-sign) finite fitness vectors with `N` objectives the base reward is in
    `[0, 3·(N+1)]`, whatever order the objective defines -/
theorem reward_range (order : List Rat → List Rat → Ordering) (best : Option (List Rat)) (initial new : List Rat)
    (hn : NonNeg new) (hi : NonNeg initial) (hb : ∀ bk, best = some bk → NonNeg bk) :
    0 ≤ distanceReward order best initial new ∧
    distanceReward order best initial new ≤ 3 * ((new.length : Rat) + 1) :=
  have hle : ∀ b, NonNeg b → relDistance (order new b) new b ≤ (new.length : Rat) := fun b hb =>
    one_mul (new.length : Rat) ▸ le_of_abs_le
      (relDistance_abs_le _ new b 1 zero_le_one fun i => relChange_le_one (hn.getD i) (hb.getD i))
  distanceReward_le order best initial new (new.length : Rat) (Nat.cast_nonneg _) (hle initial hi)
    (fun bk h => hle bk (hb bk h))

theorem reward_range_any_sign (order : List Rat → List Rat → Ordering) (best : Option (List Rat)) (initial new : List Rat) :
    0 ≤ distanceReward order best initial new ∧
    distanceReward order best initial new ≤ 3 * (2 * (new.length : Rat) + 1) :=
  have hle : ∀ b, relDistance (order new b) new b ≤ 2 * (new.length : Rat) := fun b =>
    le_of_abs_le (relDistance_abs_le _ new b 2 zero_le_two fun _ => relChange_le_two _ _)
  distanceReward_le order best initial new (2 * (new.length : Rat)) (mul_nonneg zero_le_two (Nat.cast_nonneg _))
    (hle initial) (fun bk _ => hle bk)

/-- the documented range `[0, 6]` of `estimate_distance_reward` holds for a single objective -/
theorem reward_documented_range_single_objective (order : List Rat → List Rat → Ordering) (best : Option (List Rat))
    (initial new : List Rat) (hn : NonNeg new) (hi : NonNeg initial) (hb : ∀ bk, best = some bk → NonNeg bk)
    (h1 : new.length = 1) :
    0 ≤ distanceReward order best initial new ∧ distanceReward order best initial new ≤ 6 := by
  have := reward_range order best initial new hn hi hb
  rw [h1] at this
  norm_num at this
  exact this

/-- S26: the witness — three objectives, an improvement in the first one against both the parent and the best known -/
theorem s26_witness_value :
    distanceReward lexOrder (some [2, 3, 100]) [2, 3, 100] [1, 3, 100] = 15 / 2 := by decide +kernel

/-- S26: the documented range `[0, 6]` does NOT hold for every number of objectives (doc/code mismatch, known finding) -/
theorem reward_documented_range_fails :
    ¬ ∀ (best initial new : List Rat), NonNeg new → NonNeg initial → NonNeg best →
        distanceReward lexOrder (some best) initial new ≤ 6 := by
  intro h
  have hnn : NonNeg [2, 3, 100] := by unfold NonNeg; decide
  have := h [2, 3, 100] [2, 3, 100] [1, 3, 100] (by unfold NonNeg; decide) hnn hnn
  rw [s26_witness_value] at this
  norm_num at this

/-- the witness value `7.5` is within the bound `3·(N+1) = 12` of `reward_range` for `N = 3` -/
example : (15 : Rat) / 2 ≤ 3 * (([1, 3, 100] : List Rat).length + 1) := by norm_num

theorem mul_between {x y a b c d lo hi : Rat} (hx : a ≤ x ∧ x ≤ b) (hy : c ≤ y ∧ y ≤ d) (ha : 0 ≤ a) (hc : 0 ≤ c)
    (hlo : lo ≤ a * c) (hhi : b * d ≤ hi) : lo ≤ x * y ∧ x * y ≤ hi :=
  ⟨hlo.trans (mul_le_mul hx.1 hy.1 hc (ha.trans hx.1)),
   (mul_le_mul hx.2 hy.2 (hc.trans hy.1) ((ha.trans hx.1).trans hx.2)).trans hhi⟩

theorem ite_between {p : Prop} [Decidable p] {lo hi x y : Rat} (hx : lo ≤ x ∧ x ≤ hi) (hy : lo ≤ y ∧ y ≤ hi) :
    lo ≤ (if p then x else y) ∧ (if p then x else y) ≤ hi := by
  split <;> assumption

/-- `[9/16, 3]`, documented as `(~0.5, 3]` -/
theorem perf_range (median : Option Nat) (duration : Nat) (ratio : Rat) (has : Bool) :
    9 / 16 ≤ perfMultiplier median duration ratio has ∧ perfMultiplier median duration ratio has ≤ 3 := by
  unfold perfMultiplier
  -- the duration factor takes values in `[3/4, 3/2]`, the improvement factor in `[3/4, 2]`
  exact mul_between (a := 3 / 4) (b := 3 / 2) (c := 3 / 4) (d := 2)
    (ite_between (by norm_num) <| ite_between (by norm_num) <| ite_between (by norm_num) (by norm_num))
    (ite_between (by norm_num) <| ite_between (by norm_num) (by norm_num))
    (by norm_num) (by norm_num) (by norm_num) (by norm_num)

theorem final_reward_range (order : List Rat → List Rat → Ordering) (best : Option (List Rat)) (initial new : List Rat)
    (hn : NonNeg new) (hi : NonNeg initial) (hb : ∀ bk, best = some bk → NonNeg bk)
    (median : Option Nat) (duration : Nat) (ratio : Rat) (has : Bool) :
    0 ≤ distanceReward order best initial new * perfMultiplier median duration ratio has ∧
    distanceReward order best initial new * perfMultiplier median duration ratio has ≤ 9 * ((new.length : Rat) + 1) :=
  mul_between (reward_range order best initial new hn hi hb) (perf_range median duration ratio has)
    (le_refl _) (by norm_num) (by norm_num) (by linarith)

example : perfMultiplier (some 10) 5 0 true = 3 := by decide +kernel

end C18
