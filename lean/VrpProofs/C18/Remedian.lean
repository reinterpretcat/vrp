import VrpModel.C18
import Mathlib.Algebra.BigOperators.Group.List.Basic
import Mathlib.Data.List.Induction
/-!
# C18 — `Remedian`: the buffers always stand for exactly `count` observations, `count ≤ base ^ exponent`
-/

namespace C18

/-- the shape after the last buffer filled up: everything below is empty, the last buffer holds `base` medians -/
def FullShape (base : Nat) (bufs : List (List Nat)) : Prop :=
  ∃ pre last, bufs = pre ++ [last] ∧ (∀ b ∈ pre, b = []) ∧ last.length = base

theorem sortNat_length (l : List Nat) : (sortNat l).length = l.length := List.length_mergeSort l

theorem sortNat_mem (l : List Nat) (x : Nat) : x ∈ sortNat l ↔ x ∈ l := List.mem_mergeSort

theorem FullShape.cons_nil {base : Nat} {bufs : List (List Nat)} (h : FullShape base bufs) : FullShape base ([] :: bufs) := by
  obtain ⟨pre, last, he, hp, hl⟩ := h
  exact ⟨[] :: pre, last, congrArg _ he, List.forall_mem_cons.mpr ⟨rfl, hp⟩, hl⟩

/-- the loop of `add_observation` is entered with at most `base` values in the first buffer and fewer in the others -/
theorem cascade_spec (base : Nat) (hb : 0 < base) : ∀ (rest : List (List Nat)) (b : List Nat) (lvl : Nat),
    b.length ≤ base → (∀ b' ∈ rest, b'.length < base) →
    (cascade base (b :: rest)).1.length = (b :: rest).length ∧
    weightSum base lvl (cascade base (b :: rest)).1 = weightSum base lvl (b :: rest) ∧
    (∀ y ∈ (cascade base (b :: rest)).1.flatten, y ∈ (b :: rest).flatten) ∧
    (((cascade base (b :: rest)).2 = false ∧ ∀ b' ∈ (cascade base (b :: rest)).1, b'.length < base) ∨
     ((cascade base (b :: rest)).2 = true ∧ FullShape base (cascade base (b :: rest)).1))
  | [], b, lvl, hle, _ => by
    rw [cascade]
    split
    · rename_i h
      refine ⟨rfl, ?_, ?_, Or.inr ⟨rfl, [], sortNat b, rfl, nofun, (sortNat_length b).trans h⟩⟩
      · simp only [weightSum, sortNat_length]
      · simp only [List.flatten_cons, List.flatten_nil, List.append_nil, sortNat_mem, imp_self, implies_true]
    · rename_i h
      exact ⟨rfl, rfl, fun _ hy => hy, Or.inl ⟨rfl, List.forall_mem_singleton.mpr (Nat.lt_of_le_of_ne hle h)⟩⟩
  | b2 :: rest, b, lvl, hle, hrest => by
    rw [cascade]
    split
    · rename_i h
      have hmed : (sortNat b).getD (base / 2) 0 ∈ b := by
        have hlt : base / 2 < (sortNat b).length := by rw [sortNat_length, h]; exact Nat.div_lt_self hb (Nat.lt_succ_self 1)
        rw [← sortNat_mem, List.getD_eq_getElem?_getD, List.getElem?_eq_getElem hlt]
        exact List.getElem_mem hlt
      obtain ⟨h1, h2, h3, h4⟩ := cascade_spec base hb rest (b2 ++ [(sortNat b).getD (base / 2) 0]) (lvl + 1)
        (by rw [List.length_append]; exact hrest b2 List.mem_cons_self)
        (fun b' hb' => hrest b' (List.mem_cons_of_mem _ hb'))
      refine ⟨congrArg (· + 1) h1, ?_, ?_, ?_⟩
      · simp only [weightSum, List.length_nil, Nat.zero_mul, Nat.zero_add, h2, List.length_append, List.length_singleton, h]
        rw [Nat.pow_succ, Nat.succ_mul, Nat.mul_comm base, Nat.add_assoc, Nat.add_left_comm]
      · intro y hy
        have := h3 y hy
        simp only [List.flatten_cons, List.mem_append, List.mem_singleton] at this ⊢
        rcases this with (h' | rfl) | h'
        · exact Or.inr (Or.inl h')
        · exact Or.inl hmed
        · exact Or.inr (Or.inr h')
      · rcases h4 with ⟨hf, hall⟩ | ⟨hf, hfull⟩
        · exact Or.inl ⟨hf, List.forall_mem_cons.mpr ⟨hb, hall⟩⟩
        · exact Or.inr ⟨hf, hfull.cons_nil⟩
    · rename_i h
      exact ⟨rfl, rfl, fun _ hy => hy, Or.inl ⟨rfl, List.forall_mem_cons.mpr ⟨Nat.lt_of_le_of_ne hle h, hrest⟩⟩⟩

theorem weightSum_below (base : Nat) : ∀ (bufs : List (List Nat)) (lvl : Nat),
    (∀ b ∈ bufs, b.length < base) → weightSum base lvl bufs + base ^ lvl ≤ base ^ (lvl + bufs.length)
  | [], lvl, _ => Nat.le_of_eq (Nat.zero_add _)
  | b :: rest, lvl, h => by
    have ih := weightSum_below base rest (lvl + 1) (fun b' hb' => h b' (List.mem_cons_of_mem _ hb'))
    -- `b` holds fewer than `base` values of weight `base ^ lvl`: with one more it weighs at most `base ^ (lvl + 1)`
    have hb : b.length * base ^ lvl + base ^ lvl ≤ base ^ (lvl + 1) := by
      rw [← Nat.succ_mul, Nat.pow_succ, Nat.mul_comm _ base]
      exact Nat.mul_le_mul_right _ (h b List.mem_cons_self)
    rw [weightSum, List.length_cons, ← Nat.add_assoc, Nat.add_right_comm lvl, Nat.add_right_comm, Nat.add_comm]
    exact Nat.le_trans (Nat.add_le_add_left hb _) ih

theorem weightSum_full (base : Nat) : ∀ (pre : List (List Nat)) (last : List Nat) (lvl : Nat), (∀ b ∈ pre, b = []) →
    weightSum base lvl (pre ++ [last]) = last.length * base ^ (lvl + pre.length)
  | [], last, lvl, _ => by simp [weightSum]
  | b :: pre, last, lvl, h => by
    obtain ⟨rfl, hpre⟩ := List.forall_mem_cons.mp h
    rw [List.cons_append, weightSum, weightSum_full base pre last (lvl + 1) hpre, List.length_nil, Nat.zero_mul,
      Nat.zero_add, List.length_cons, Nat.add_right_comm, Nat.add_assoc]

structure Remedian.Inv (r : Remedian) : Prop where
  len : r.buffers.length = r.exponent
  weight : r.count = weightSum r.base 0 r.buffers
  shape : (r.isFull = false ∧ ∀ b ∈ r.buffers, b.length < r.base) ∨ (r.isFull = true ∧ FullShape r.base r.buffers)

theorem weightSum_replicate_nil (base : Nat) : ∀ (e lvl : Nat), weightSum base lvl (List.replicate e []) = 0
  | 0, _ => rfl
  | e + 1, lvl => by
    rw [List.replicate_succ, weightSum, weightSum_replicate_nil base e (lvl + 1), List.length_nil, Nat.zero_mul]

theorem Remedian.new_inv (base exponent : Nat) (hb : 0 < base) : (Remedian.new base exponent).Inv :=
  ⟨List.length_replicate, (weightSum_replicate_nil base exponent 0).symm,
    Or.inl ⟨rfl, fun _ hb' => (List.eq_of_mem_replicate hb') ▸ hb⟩⟩

theorem Remedian.add_fields (r : Remedian) (x : Nat) :
    (r.add x).1.base = r.base ∧ (r.add x).1.exponent = r.exponent := by
  unfold Remedian.add
  split
  · exact ⟨rfl, rfl⟩
  · split <;> exact ⟨rfl, rfl⟩

theorem Remedian.inv_count_le (r : Remedian) (h : r.Inv) :
    r.count ≤ r.base ^ r.exponent ∧ (r.isFull = true ↔ r.count = r.base ^ r.exponent) := by
  obtain ⟨hlen, hw, hshape⟩ := h
  rcases hshape with ⟨hf, hall⟩ | ⟨hf, pre, last, he, hp, hl⟩
  · have := weightSum_below r.base r.buffers 0 hall
    rw [← hw, Nat.pow_zero, Nat.zero_add, hlen] at this
    exact ⟨Nat.le_of_lt this, by rw [hf]; exact ⟨nofun, fun h' => absurd h' (Nat.ne_of_lt this)⟩⟩
  · have : r.count = r.base ^ r.exponent := by
      rw [hw, ← hlen, he, weightSum_full r.base pre last 0 hp, hl, Nat.zero_add, List.length_append, List.length_singleton,
        Nat.pow_succ, Nat.mul_comm]
    exact ⟨Nat.le_of_eq this, fun _ => this, fun _ => hf⟩

theorem Remedian.add_of_full {r : Remedian} (h : r.isFull = true) (x : Nat) : r.add x = (r, false) := by
  rw [Remedian.add, if_pos h]

theorem Remedian.add_inv (r : Remedian) (x : Nat) (hb : 0 < r.base) (he : 0 < r.exponent) (h : r.Inv)
    (hf : r.isFull = false) :
    (r.add x).1.Inv ∧ (r.add x).1.count = r.count + 1 ∧
    ∀ y ∈ (r.add x).1.buffers.flatten, y = x ∨ y ∈ r.buffers.flatten := by
  obtain ⟨hlen, hw, hshape⟩ := h
  have hbelow : ∀ b ∈ r.buffers, b.length < r.base := by
    rcases hshape with ⟨_, hall⟩ | ⟨hc, _⟩
    · exact hall
    · rw [hf] at hc; cases hc
  cases hbufs : r.buffers with
  | nil => rw [hbufs] at hlen; exact absurd hlen (Nat.ne_of_lt he)
  | cons b rest =>
    rw [hbufs] at hbelow hlen hw
    obtain ⟨hb0, hrest⟩ := List.forall_mem_cons.mp hbelow
    obtain ⟨c1, c2, c3, c4⟩ := cascade_spec r.base hb rest (b ++ [x]) 0
      (by rw [List.length_append]; exact hb0) hrest
    simp only [Remedian.add, hf, hbufs, Bool.false_eq_true, if_false]
    refine ⟨⟨c1.trans hlen, ?_, c4⟩, trivial, fun y hy => ?_⟩
    · show r.count + 1 = weightSum r.base 0 (cascade r.base ((b ++ [x]) :: rest)).1
      rw [c2, hw, weightSum, weightSum, List.length_append, List.length_singleton, Nat.pow_zero, Nat.mul_one, Nat.mul_one,
        Nat.add_right_comm]
    · have := c3 y hy
      simp only [List.flatten_cons, List.mem_append, List.mem_singleton] at this ⊢
      rcases this with (h' | h') | h'
      · exact Or.inr (Or.inl h')
      · exact Or.inl h'
      · exact Or.inr (Or.inr h')

theorem min_succ_step {c n cap : Nat} (hc : c = min n cap) :
    (c = cap → c = min (n + 1) cap) ∧ (c ≠ cap → c + 1 = min (n + 1) cap) := by
  subst hc
  rcases Nat.lt_or_ge n cap with h | h
  · rw [Nat.min_eq_left (Nat.le_of_lt h), Nat.min_eq_left h]
    exact ⟨fun h' => absurd h' (Nat.ne_of_lt h), fun _ => rfl⟩
  · rw [Nat.min_eq_right h, Nat.min_eq_right (Nat.le_succ_of_le h)]
    exact ⟨fun _ => rfl, fun h' => absurd rfl h'⟩

def Remedian.feed (base exponent : Nat) (xs : List Nat) : Remedian :=
  xs.foldl (fun r x => (r.add x).1) (Remedian.new base exponent)

theorem Remedian.feed_snoc (base exponent : Nat) (xs : List Nat) (x : Nat) :
    Remedian.feed base exponent (xs ++ [x]) = ((Remedian.feed base exponent xs).add x).1 := by
  simp [Remedian.feed, List.foldl_append]

theorem Remedian.feed_fields (base exponent : Nat) (xs : List Nat) :
    (Remedian.feed base exponent xs).base = base ∧ (Remedian.feed base exponent xs).exponent = exponent := by
  induction xs using List.reverseRecOn with
  | nil => exact ⟨rfl, rfl⟩
  | append_singleton xs x ih =>
    rw [Remedian.feed_snoc]
    have := Remedian.add_fields (Remedian.feed base exponent xs) x
    exact ⟨this.1.trans ih.1, this.2.trans ih.2⟩

theorem Remedian.feed_inv (base exponent : Nat) (hb : 0 < base) (he : 0 < exponent) (xs : List Nat) :
    (Remedian.feed base exponent xs).Inv ∧
    (Remedian.feed base exponent xs).count = min xs.length (base ^ exponent) ∧
    (∀ y ∈ (Remedian.feed base exponent xs).buffers.flatten, y ∈ xs) := by
  induction xs using List.reverseRecOn with
  | nil =>
    refine ⟨Remedian.new_inv base exponent hb, (Nat.zero_min _).symm, fun y hy => ?_⟩
    simp [Remedian.feed, Remedian.new] at hy
  | append_singleton xs x ih =>
    obtain ⟨hinv, hcount, hmem⟩ := ih
    obtain ⟨hbase, hexp⟩ := Remedian.feed_fields base exponent xs
    have hc := Remedian.inv_count_le _ hinv
    rw [hbase, hexp] at hc
    rw [Remedian.feed_snoc, List.length_append, List.length_singleton]
    cases hf : (Remedian.feed base exponent xs).isFull with
    | true =>
      rw [Remedian.add_of_full hf]
      dsimp only
      exact ⟨hinv, (min_succ_step hcount).1 (hc.2.mp hf), fun y hy => List.mem_append_left _ (hmem y hy)⟩
    | false =>
      obtain ⟨hinv', hcount', hmem'⟩ := Remedian.add_inv _ x (by rw [hbase]; exact hb) (by rw [hexp]; exact he) hinv hf
      have hne : (Remedian.feed base exponent xs).count ≠ base ^ exponent := fun h => by
        rw [hc.2.mpr h] at hf; cases hf
      refine ⟨hinv', hcount'.trans ((min_succ_step hcount).2 hne), fun y hy => ?_⟩
      rcases hmem' y hy with rfl | h'
      · exact List.mem_append_right _ List.mem_cons_self
      · exact List.mem_append_left _ (hmem y h')

theorem remedian_count_bounded (base exponent : Nat) (hb : 0 < base) (he : 0 < exponent) (xs : List Nat) :
    (Remedian.feed base exponent xs).Inv ∧
    (Remedian.feed base exponent xs).count = min xs.length (base ^ exponent) ∧
    (Remedian.feed base exponent xs).count ≤ base ^ exponent ∧
    (Remedian.feed base exponent xs).count = weightSum base 0 (Remedian.feed base exponent xs).buffers ∧
    ((Remedian.feed base exponent xs).isFull = true ↔ (Remedian.feed base exponent xs).count = base ^ exponent) ∧
    (∀ y ∈ (Remedian.feed base exponent xs).buffers.flatten, y ∈ xs) := by
  obtain ⟨hinv, hcount, hmem⟩ := Remedian.feed_inv base exponent hb he xs
  obtain ⟨hbase, hexp⟩ := Remedian.feed_fields base exponent xs
  have hc := Remedian.inv_count_le _ hinv
  rw [hbase, hexp] at hc
  exact ⟨hinv, hcount, hc.1, hinv.weight.trans (by rw [hbase]), hc.2, hmem⟩

theorem pickMedian_mem (half : Nat) : ∀ (l : List (Nat × Nat)) (run m : Nat), pickMedian half run l = some m → ∃ w, (m, w) ∈ l
  | [], run, m, h => by simp [pickMedian] at h
  | (m', w) :: rest, run, m, h => by
    rw [pickMedian] at h
    split at h
    · cases h; exact ⟨w, List.mem_cons_self⟩
    · obtain ⟨w', hw'⟩ := pickMedian_mem half rest _ m h
      exact ⟨w', List.mem_cons_of_mem _ hw'⟩

theorem pickMedian_some (half : Nat) : ∀ (l : List (Nat × Nat)) (run : Nat), l ≠ [] → half ≤ run + (l.map (·.2)).sum →
    ∃ m, pickMedian half run l = some m
  | [], _, h, _ => absurd rfl h
  | (m, w) :: rest, run, _, hs => by
    rw [pickMedian]
    split
    · exact ⟨m, rfl⟩
    · rename_i hlt
      rw [List.map_cons, List.sum_cons, ← Nat.add_assoc] at hs
      refine pickMedian_some half rest (run + w) (fun hc => ?_) hs
      subst hc
      exact hlt hs

theorem weightedMedians_mem (base : Nat) : ∀ (bufs : List (List Nat)) (lvl m w : Nat),
    (m, w) ∈ weightedMedians base lvl bufs → m ∈ bufs.flatten
  | [], _, _, _, h => by simp [weightedMedians] at h
  | b :: rest, lvl, m, w, h => by
    rw [weightedMedians, List.mem_append, List.mem_map] at h
    rw [List.flatten_cons, List.mem_append]
    rcases h with ⟨m', hm', he⟩ | h
    · exact Or.inl ((Prod.mk.inj he).1 ▸ hm')
    · exact Or.inr (weightedMedians_mem base rest (lvl + 1) m w h)

theorem weightedMedians_sum (base : Nat) : ∀ (bufs : List (List Nat)) (lvl : Nat),
    ((weightedMedians base lvl bufs).map (·.2)).sum = weightSum base lvl bufs
  | [], _ => rfl
  | b :: rest, lvl => by
    rw [weightedMedians, weightSum, List.map_append, List.sum_append, weightedMedians_sum base rest (lvl + 1), List.map_map]
    congr 1
    induction b with
    | nil => simp
    | cons x xs ih => rw [List.map_cons, List.sum_cons, List.length_cons, ih, Nat.succ_mul, Nat.add_comm]; rfl

theorem remedian_median_is_observation (base exponent : Nat) (hb : 0 < base) (he : 0 < exponent) (xs : List Nat)
    (hne : xs ≠ []) : ∃ m, (Remedian.feed base exponent xs).approxMedian = some m ∧ m ∈ xs := by
  obtain ⟨hinv, hcount, _, hweight, _, hmem⟩ := remedian_count_bounded base exponent hb he xs
  obtain ⟨hbase, hexp⟩ := Remedian.feed_fields base exponent xs
  have hpos : 0 < (Remedian.feed base exponent xs).count :=
    hcount ▸ Nat.lt_min.mpr ⟨List.length_pos_iff.mpr hne, Nat.pow_pos hb⟩
  unfold Remedian.approxMedian
  rcases hinv.shape with ⟨hf, _⟩ | ⟨hf, pre, last, hbufs, _, hlast⟩
  · rw [hf, if_neg Bool.false_ne_true, hbase]
    have hperm := List.mergeSort_perm (weightedMedians base 0 (Remedian.feed base exponent xs).buffers)
      (fun a b => decide (a.1 ≤ b.1))
    generalize List.mergeSort (weightedMedians base 0 (Remedian.feed base exponent xs).buffers) _ = L at hperm
    have hsum : (L.map (·.2)).sum = (Remedian.feed base exponent xs).count := by
      rw [(hperm.map _).sum_nat, weightedMedians_sum, ← hweight]
    obtain ⟨m, hm⟩ := pickMedian_some ((Remedian.feed base exponent xs).count / 2) L 0
      (fun hc => by subst hc; exact absurd hsum (Nat.ne_of_lt hpos))
      (by rw [hsum, Nat.zero_add]; exact Nat.div_le_self _ 2)
    obtain ⟨w, hw⟩ := pickMedian_mem _ _ _ _ hm
    exact ⟨m, hm, hmem m (weightedMedians_mem _ _ _ _ _ (hperm.mem_iff.mp hw))⟩
  · rw [if_pos hf]
    refine ⟨_, rfl, hmem _ ?_⟩
    have hlen : (Remedian.feed base exponent xs).exponent - 1 = pre.length := by
      rw [← hinv.len, hbufs, List.length_append, List.length_singleton, Nat.add_sub_cancel]
    have hlt : (Remedian.feed base exponent xs).base / 2 < last.length := by
      rw [hlast]; exact Nat.div_lt_self (by rw [hbase]; exact hb) (Nat.lt_succ_self 1)
    have hget : (pre ++ [last]).getD pre.length [] = last := by simp
    rw [hlen, hbufs, hget, List.getD_eq_getElem?_getD, List.getElem?_eq_getElem hlt]
    exact List.mem_flatten.mpr ⟨last, List.mem_append_right _ List.mem_cons_self, List.getElem_mem hlt⟩

example : (Remedian.feed 3 3 (List.range 30)).count = 27 := by
  have := (remedian_count_bounded 3 3 (Nat.succ_pos 2) (Nat.succ_pos 2) (List.range 30)).2.1
  simpa using this

end C18
