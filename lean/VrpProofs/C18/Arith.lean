import VrpModel.C18
import Mathlib.Tactic.Ring
import Mathlib.Algebra.Order.Field.Rat
/-!
# C18 — arithmetic shared by the C18 modules

The model's `absR`, `maxR`, `minR` are `|·|`, `max`, `min` of the ordered field `Rat`: after rewriting with the three
equations every fact about them is a library lemma.
-/

namespace C18

theorem absR_eq_abs (x : Rat) : absR x = |x| := by
  unfold absR
  split
  · exact (abs_of_neg ‹_›).symm
  · exact (abs_of_nonneg (not_lt.mp ‹_›)).symm

theorem maxR_eq_max (a b : Rat) : maxR a b = max a b := (max_def a b).symm

theorem minR_eq_min (a b : Rat) : minR a b = min a b := (min_def a b).symm

theorem sum_map_sub_const (c : Rat) : ∀ vs : List Rat, (vs.map (fun v => v - c)).sum = vs.sum - (vs.length : Rat) * c
  | [] => by simp
  | v :: vs => by
    simp only [List.map_cons, List.sum_cons, List.length_cons, sum_map_sub_const c vs]
    push_cast; ring

theorem sum_sq_dev_expand (c : Rat) : ∀ vs : List Rat,
    (vs.map (fun v => (v - c) * (v - c))).sum = (vs.map (fun v => v * v)).sum - 2 * c * vs.sum + (vs.length : Rat) * (c * c)
  | [] => by simp
  | v :: vs => by
    simp only [List.map_cons, List.sum_cons, List.length_cons, sum_sq_dev_expand c vs]
    push_cast; ring

theorem sum_sq_dev_nonneg (c : Rat) : ∀ vs : List Rat, 0 ≤ (vs.map (fun v => (v - c) * (v - c))).sum
  | [] => le_refl _
  | _ :: vs => add_nonneg (mul_self_nonneg _) (sum_sq_dev_nonneg c vs)

end C18
