import VrpModel.C18
import Mathlib.Data.List.Induction
/-!
# C18 — `MinVariation`, period mode: the position/drain arithmetic equals the declarative window

The arms of the `match` on `position` are those /repo has after repair S27 (`len < 3` / `len >= 3`).
-/

namespace C18

abbrev Sample := Nat × List Rat

/-- recorded times never decrease (the clock is monotone; the thinning path re-sorts) -/
def TimeSorted (l : List Sample) : Prop := l.Pairwise (fun a b => a.1 ≤ b.1)

theorem sorted_split (c : Nat) : ∀ l : List Sample, TimeSorted l →
    ∃ outs ins, l = outs ++ ins ∧ (∀ x ∈ outs, x.1 < c) ∧ (∀ x ∈ ins, c ≤ x.1)
  | [], _ => ⟨[], [], rfl, nofun, nofun⟩
  | x :: xs, h => by
    obtain ⟨hx, hxs⟩ := List.pairwise_cons.mp h
    by_cases hP : x.1 < c
    · obtain ⟨outs, ins, he, ho, hi⟩ := sorted_split c xs hxs
      exact ⟨x :: outs, ins, congrArg _ he, List.forall_mem_cons.mpr ⟨hP, ho⟩, hi⟩
    · exact ⟨[], x :: xs, rfl, nofun,
        List.forall_mem_cons.mpr ⟨Nat.le_of_not_lt hP, fun y hy => Nat.le_trans (Nat.le_of_not_lt hP) (hx y hy)⟩⟩

theorem filter_old {period e : Nat} {old : List Sample} (ho : ∀ x ∈ old, x.1 < e - period) :
    old.filter (fun p => decide (e - period ≤ p.1)) = [] :=
  List.filter_eq_nil_iff.mpr fun x hx => by rw [decide_eq_true_eq]; exact Nat.not_le.mpr (ho x hx)

theorem periodWindow_append {period e : Nat} {outs ins : List Sample} (ho : ∀ x ∈ outs, x.1 < e - period)
    (hi : ∀ x ∈ ins, e - period ≤ x.1) :
    periodWindow period (outs ++ ins) e =
      if ins.length < 2 then (outs ++ ins).drop ((outs ++ ins).length - 2) else ins := by
  have h2 : ins.filter (fun p => decide (e - period ≤ p.1)) = ins :=
    List.filter_eq_self.mpr fun x hx => by simpa using hi x hx
  rw [periodWindow, List.filter_append, filter_old ho, h2, List.nil_append]

theorem drop_periodPosition_append {c : Nat} {outs ins : List Sample} (ho : ∀ x ∈ outs, x.1 < c)
    (hi : ∀ x ∈ ins, c ≤ x.1) (h2 : 2 ≤ (outs ++ ins).length) :
    (outs ++ ins).drop (periodPosition (outs ++ ins) c) =
      if ins.length < 2 then (outs ++ ins).drop ((outs ++ ins).length - 2) else ins := by
  have hfind : (outs ++ ins).reverse.findIdx? (fun p => decide (p.1 < c)) = if outs = [] then none else some ins.length := by
    have hnone : ins.reverse.findIdx? (fun p => decide (p.1 < c)) = none :=
      List.findIdx?_eq_none_iff.mpr fun x hx => by simpa using hi x (List.mem_reverse.mp hx)
    rw [List.reverse_append, List.findIdx?_append, hnone, Option.none_or, List.length_reverse]
    cases hr : outs.reverse with
    | nil => rw [List.reverse_eq_nil_iff.mp hr]; rfl
    | cons y ys =>
      have hy : y ∈ outs := List.mem_reverse.mp (hr ▸ List.mem_cons_self)
      have hne : outs ≠ [] := fun hc => by rw [hc] at hr; cases hr
      rw [List.findIdx?_cons, if_pos (by simpa using ho y hy), if_neg hne, Option.map_some, Nat.zero_add]
  rw [periodPosition, hfind]
  by_cases hout : outs = []
  · subst hout
    rw [List.nil_append] at h2 ⊢
    rw [if_neg (Nat.not_lt.mpr h2)]; rfl
  · rw [if_neg hout]
    dsimp only
    by_cases hp2 : ins.length < 2
    · by_cases hl3 : (outs ++ ins).length < 3
      · rw [if_pos ⟨hp2, hl3⟩, if_pos hp2, Nat.sub_eq_zero_of_le (Nat.le_of_lt_succ hl3)]
      · rw [if_neg (fun h => hl3 h.2), if_pos hp2, if_pos hp2]
    · rw [if_neg (fun h => hp2 h.1), if_neg hp2, if_neg hp2, List.length_append, Nat.add_sub_cancel, List.drop_left]

theorem periodWindow_suffix {period e : Nat} {l : List Sample} (hs : TimeSorted l) (h2 : 2 ≤ l.length) :
    ∃ d, l = d ++ periodWindow period l e ∧ (∀ x ∈ d, x.1 < e - period) ∧ 2 ≤ (periodWindow period l e).length := by
  obtain ⟨outs, ins, rfl, ho, hi⟩ := sorted_split (e - period) l hs
  rw [periodWindow_append ho hi]
  split
  · rename_i hlt
    rw [List.length_append] at h2 ⊢
    refine ⟨_, (List.take_append_drop _ _).symm, fun x hx => ?_, by rw [List.length_drop, List.length_append, Nat.sub_sub_self h2]; exact Nat.le_refl 2⟩
    -- fewer than two inside: the first `len - 2` samples are all older than the period
    rw [List.take_append_of_le_length (Nat.sub_le_of_le_add (Nat.add_le_add_left (Nat.le_of_lt hlt) _))] at hx
    exact ho x (List.mem_of_mem_take hx)
  · exact ⟨outs, rfl, ho, Nat.le_of_not_lt ‹_›⟩

theorem periodWindow_append_old {period e : Nat} {old l : List Sample} (ho : ∀ x ∈ old, x.1 < e - period)
    (h2 : 2 ≤ l.length) : periodWindow period (old ++ l) e = periodWindow period l e := by
  rw [periodWindow, periodWindow, List.filter_append, filter_old ho, List.nil_append, List.length_append,
    Nat.add_sub_assoc h2, List.drop_length_add_append]

/-- one call of `update_and_check` without thinning (`hlen`) -/
theorem periodStep_eq_window (dec : List Sample → List Sample) (period : Nat) (th : Rat) (vals : List Sample)
    (e : Nat) (f : List Rat) (hs : TimeSorted (vals ++ [(e, f)])) (hlen : vals.length < 1000) :
    periodStep dec period th vals e f =
      if e < period ∨ (vals ++ [(e, f)]).length < 2 then (vals ++ [(e, f)], false)
      else (periodWindow period (vals ++ [(e, f)]) e,
            checkThreshold ((periodWindow period (vals ++ [(e, f)]) e).map (·.2)) th) := by
  have hnd : ¬ (vals ++ [(e, f)]).length > 1000 := by
    rw [List.length_append, List.length_singleton]; exact Nat.not_lt.mpr hlen
  simp only [periodStep, if_neg hnd, gt_iff_lt]
  split
  · rfl
  · rename_i hc
    obtain ⟨outs, ins, he, ho, hi⟩ := sorted_split (e - period) _ hs
    rw [he] at hc ⊢
    rw [drop_periodPosition_append ho hi (Nat.le_of_not_lt fun h => hc (Or.inr h)), periodWindow_append ho hi]

/-! ### whole histories: the drained store answers like the full history -/

/-- the store after feeding a history (`[]` before the first call) -/
def periodState (dec : List Sample → List Sample) (period : Nat) (th : Rat) (hist : List Sample) : List Sample :=
  hist.foldl (fun st x => (periodStep dec period th st x.1 x.2).1) []

theorem periodState_snoc (dec : List Sample → List Sample) (period : Nat) (th : Rat) (hist : List Sample) (x : Sample) :
    periodState dec period th (hist ++ [x]) = (periodStep dec period th (periodState dec period th hist) x.1 x.2).1 := by
  simp [periodState, List.foldl_append]

/-- the store is the history minus a prefix of samples, each older by more than the period than some stored one
    (so it stays out of every later window, times being sorted) -/
def StoreInv (period : Nat) (hist st : List Sample) : Prop :=
  ∃ dropped, hist = dropped ++ st ∧ ∀ x ∈ dropped, ∃ y ∈ st, x.1 + period < y.1

theorem storeInv_step (dec : List Sample → List Sample) (period : Nat) (th : Rat) (hist st : List Sample)
    (e : Nat) (f : List Rat) (hinv : StoreInv period hist st) (hs : TimeSorted (hist ++ [(e, f)]))
    (hlen : hist.length < 1000) :
    StoreInv period (hist ++ [(e, f)]) (periodStep dec period th st e f).1 ∧
    (periodStep dec period th st e f).2 = periodSpec period th (hist ++ [(e, f)]) e := by
  obtain ⟨dropped, rfl, hold⟩ := hinv
  rw [List.append_assoc] at hs ⊢
  have hs' : TimeSorted (st ++ [(e, f)]) := (List.pairwise_append.mp hs).2.1
  have hlast : ∀ y ∈ st, y.1 ≤ e := fun y hy =>
    (List.pairwise_append.mp hs').2.2 y hy _ List.mem_cons_self
  have hlen2 : (dropped ++ (st ++ [(e, f)])).length < 2 ↔ (st ++ [(e, f)]).length < 2 := by
    cases dropped with
    | nil => rfl
    | cons x _ =>
      obtain ⟨y, hy, _⟩ := hold x List.mem_cons_self
      have := List.length_pos_of_mem hy
      simp only [List.length_append, List.length_cons]
      omega
  rw [periodStep_eq_window dec period th st e f hs' (Nat.lt_of_le_of_lt (List.length_append ▸ Nat.le_add_left _ _) hlen)]
  simp only [periodSpec, hlen2]
  split
  · exact ⟨⟨dropped, rfl, fun x hx => (hold x hx).imp fun y hy => ⟨List.mem_append_left _ hy.1, hy.2⟩⟩, rfl⟩
  · rename_i hc
    have h2 : 2 ≤ (st ++ [(e, f)]).length := Nat.le_of_not_lt fun h => hc (Or.inr h)
    -- a dropped sample is older than `e - period`, so it is in no later window
    have hold' : ∀ x ∈ dropped, x.1 < e - period := fun x hx => by
      obtain ⟨y, hy, hxy⟩ := hold x hx
      exact Nat.lt_sub_of_add_lt (Nat.lt_of_lt_of_le hxy (hlast y hy))
    obtain ⟨d, hde, hdold, hkeep⟩ := periodWindow_suffix (period := period) (e := e) hs' h2
    rw [periodWindow_append_old hold' h2]
    refine ⟨⟨dropped ++ d, by rw [List.append_assoc, ← hde], fun x hx => ⟨(e, f), ?_, ?_⟩⟩, rfl⟩
    · -- the newest sample is the last of the window
      have h := congrArg List.getLast? hde
      rw [List.getLast?_concat, List.getLast?_append] at h
      cases hw : (periodWindow period (st ++ [(e, f)]) e).getLast? with
      | none => rw [List.getLast?_eq_none_iff.mp hw] at hkeep; cases hkeep
      | some w => rw [hw, Option.some_or] at h; exact List.mem_of_getLast? (h ▸ hw)
    · exact Nat.add_lt_of_lt_sub ((List.mem_append.mp hx).elim (hold' x) (hdold x))

theorem periodStep_fires_iff_spec (dec : List Sample → List Sample) (period : Nat) (th : Rat) (vals : List Sample)
    (e : Nat) (f : List Rat) (hs : TimeSorted (vals ++ [(e, f)])) (hlen : vals.length < 1000) :
    (periodStep dec period th vals e f).2 = periodSpec period th (vals ++ [(e, f)]) e :=
  (storeInv_step dec period th vals vals e f ⟨[], rfl, nofun⟩ hs hlen).2

theorem storeInv_run (dec : List Sample → List Sample) (period : Nat) (th : Rat) (hist : List Sample)
    (hs : TimeSorted hist) (hlen : hist.length ≤ 1000) : StoreInv period hist (periodState dec period th hist) := by
  induction hist using List.reverseRecOn with
  | nil => exact ⟨[], rfl, nofun⟩
  | append_singleton hist x ih =>
    rw [List.length_append, List.length_singleton] at hlen
    rw [periodState_snoc]
    exact (storeInv_step dec period th hist _ x.1 x.2 (ih (List.pairwise_append.mp hs).1 (Nat.le_of_succ_le hlen)) hs hlen).1

/-- `variation_fires_iff` (period mode): the drained store never changes an answer. Above 1000 samples the code thins
    the store at random — outside this theorem. -/
theorem variation_fires_iff_period (dec : List Sample → List Sample) (period : Nat) (th : Rat) (hist : List Sample)
    (e : Nat) (f : List Rat) (hs : TimeSorted (hist ++ [(e, f)])) (hlen : hist.length < 1000) :
    (periodStep dec period th (periodState dec period th hist) e f).2 = periodSpec period th (hist ++ [(e, f)]) e :=
  (storeInv_step dec period th hist _ e f
    (storeInv_run dec period th hist (List.pairwise_append.mp hs).1 (Nat.le_of_lt hlen)) hs hlen).2

/-- S27 history (fitness 1000, 500, 1 at 0 s, 1.2 s, 2.4 s; period 1 s, threshold 0.01): the third call sees one sample
    inside the period, the window is extended to the two most recent ones and the criterion stays silent -/
example : (periodStep id 1000 (1 / 100) (periodState id 1000 (1 / 100) [(0, [1000]), (1200, [500])]) 2400 [1]).2 = false := by
  decide +kernel

example : periodWindow 1000 [(0, [1000]), (1200, [500]), (2400, [1])] 2400 = [(1200, [500]), (2400, [1])] := by
  decide +kernel

end C18
