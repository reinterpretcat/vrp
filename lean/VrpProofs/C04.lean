import VrpModel.C04
import VrpProofs.C02
/-!
# C04 — every search step maps a consistent solution to a consistent one

`partB`, `regB` are what the driver evaluates on snapshots of the REAL contexts. The operator bodies (about 180 named
operators) are traced, not proved.
-/
namespace C04
open Machine

theorem partB_iff_part (n : Nat) (c : Ctx) : partB n c = true ↔ Part (List.range n) c := by
  simp only [partB, Part, Bool.and_eq_true, List.all_eq_true, List.mem_range, beq_iff_eq, decide_eq_true_eq,
    List.count_range]
  constructor
  · rintro ⟨h1, h2⟩ x
    split
    · next hx => exact h1 x hx
    · next hx => exact List.count_eq_zero.mpr fun hm => hx (h2 x hm)
  · intro h
    refine ⟨fun x hx => by rw [h x, if_pos hx], fun x hm => Decidable.by_contra fun hx => ?_⟩
    exact List.count_eq_zero.mp ((h x).trans (if_neg hx)) hm

theorem regB_regPart (fleet : List Actor) (c : Ctx) (h : regB fleet c = true) : RegPart fleet c := by
  unfold regB at h
  simp only [Bool.and_eq_true, List.all_eq_true, beq_iff_eq, List.mem_append, List.contains_iff_mem] at h
  intro a
  by_cases ha : a ∈ fleet
  · exact h.1 a ha
  · have h1 : fleet.count a = 0 := List.count_eq_zero.mpr ha
    have h2 : c.available.count a = 0 := List.count_eq_zero.mpr (fun hm => ha (h.2 a (Or.inl hm)))
    have h3 : ucnt a c.routes = 0 := List.count_eq_zero.mpr (fun hm => ha (h.2 a (Or.inr hm)))
    rw [h1, h2, h3]

def Inv (n : Nat) (fleet : List Actor) (c : Ctx) : Prop := Part (List.range n) c ∧ RegPart fleet c

theorem steps_preserve_inv (n : Nat) (fleet : List Actor) (ops : List Op) (c c' : Ctx)
    (h : Inv n fleet c) (hr : run c ops = some c') : Inv n fleet c' :=
  ⟨run_part _ ops c c' h.1 hr, run_reg fleet ops c c' h.2 hr⟩

theorem checked_snapshot_stays_consistent (n : Nat) (fleet : List Actor) (ops : List Op) (c c' : Ctx)
    (hp : partB n c = true) (hg : regB fleet c = true) (hr : run c ops = some c') :
    partB n c' = true :=
  (partB_iff_part n c').mpr (steps_preserve_inv n fleet ops c c' ⟨(partB_iff_part n c).mp hp, regB_regPart fleet c hg⟩ hr).1

/-- a deep copy is a value in the pure model, so this is trivial here; on the real code it is checked by fingerprints of
    the parent before and after every step -/
theorem parent_unchanged (parent : Ctx) (ops : List Op) : (fun _ => parent) (run parent ops) = parent := rfl

example : partB 3 { required := [2], ignored := [], unassigned := [0], locked := [], routes := [⟨7, [1]⟩], available := [8] } = true := by decide
example : partB 3 { required := [2], ignored := [], unassigned := [0, 1], locked := [], routes := [⟨7, [1]⟩], available := [8] } = false := by decide
example : tourB [1, 3, 1] [0, 2, 0] { acts := [(0, none), (1, some 1), (2, none), (1, some 0), (1, some 2)], jobSet := [2, 0, 1], jobCount := 3 } = true := by decide
example : tourB [1, 2, 1] [0, 1, 0] { acts := [(1, some 1), (1, some 0)], jobSet := [1], jobCount := 1 } = false := by decide

/-! ## pinned jobs

`pinTourB` (the Boolean the driver evaluates on real tours) for a strict pin says: the pinned jobs occur in the tour
exactly as listed (`occ == jobs`) and as one block. This verdict is stable under exactly the moves the real code can make
on such a tour: an insertion `Rule::can_insert` admits, and the removal of a job that is not pinned. -/

theorem isInfix_iff_infix (xs l : List Nat) : isInfix xs l = true ↔ xs <:+: l := by
  induction l with
  | nil => simp only [isInfix, List.isEmpty_iff, List.infix_nil]
  | cons y ys ih => simp only [isInfix, Bool.or_eq_true, List.isPrefixOf_iff_prefix, ih, List.infix_cons_iff]

theorem isInfix_iff (xs l : List Nat) : isInfix xs l = true ↔ ∃ a b, l = a ++ xs ++ b := by
  rw [isInfix_iff_infix]
  exact exists_congr fun a => exists_congr fun b => eq_comm

theorem strict_block_survives_removal (js pre post : List Nat) (y : Nat) (hy : y ∉ js) :
    isInfix js ((pre ++ js ++ post).filter (· != y)) = true := by
  have hjs : js.filter (· != y) = js := List.filter_eq_self.mpr fun a ha => bne_iff_ne.mpr fun e => hy (e ▸ ha)
  have h := (List.infix_append pre js post).filter (· != y)
  rwa [hjs, ← isInfix_iff_infix] at h

theorem insertJob_append_left {a : List Nat} {i : Nat} (h : i ≤ a.length) (b : List Nat) (x : Nat) :
    insertJob (a ++ b) i x = insertJob a i x ++ b := by
  simp only [insertJob, List.take_append_of_le_length h, List.drop_append_of_le_length h, List.append_assoc,
    List.cons_append]

theorem insertJob_append_right {a : List Nat} {i : Nat} (h : a.length ≤ i) (b : List Nat) (x : Nat) :
    insertJob (a ++ b) i x = a ++ insertJob b (i - a.length) x := by
  simp only [insertJob, List.take_append, List.drop_append, List.take_of_length_le h, List.drop_of_length_le h,
    List.append_assoc, List.nil_append]

theorem canInsert_between_pinned (pos : LockPos) {js : List Nat} {x p n : Nat} (hx : x ∉ js) (hp : p ∈ js)
    (hn : n ∈ js) : canInsert pos js (some x) (some p) (some n) = false := by
  -- after `p`: the next job must be outside the rule; before `n`: the previous one must be
  have ha : canAfter js (some p) (some n) = false := by simp [canAfter, hn]
  have hb : canBefore js (some p) (some n) = false := by simp [canBefore, hp]
  have hr : inRule js (some x) = false := by simp [inRule, hx]
  cases pos <;> simp only [canInsert, ha, hb, hr, Bool.or_self]

theorem getElem?_block (pre js post : List Nat) {k : Nat} (h1 : pre.length ≤ k) (h2 : k < pre.length + js.length) :
    ∃ p ∈ js, (pre ++ js ++ post)[k]? = some p := by
  have hk : k - pre.length < js.length := Nat.sub_lt_left_of_lt_add h1 h2
  refine ⟨js[k - pre.length], List.getElem_mem hk, ?_⟩
  rw [List.append_assoc, List.getElem?_append_right h1, List.getElem?_append_left hk, List.getElem?_eq_getElem hk]

/-- **the locking rule keeps a strict block contiguous**: whatever the position kind, an insertion of a job that is not
    pinned which `Rule::can_insert` admits does not split the block -/
theorem strict_block_survives_insert (pos : LockPos) (js pre post : List Nat) (x i : Nat)
    (hx : x ∉ js)
    (hc : canInsert pos js (some x) (prevAt (pre ++ js ++ post) i) (nextAt (pre ++ js ++ post) i) = true) :
    isInfix js (insertJob (pre ++ js ++ post) i x) = true := by
  rw [isInfix_iff_infix]
  rcases Nat.lt_or_ge pre.length i with h1 | h1
  · rcases Nat.lt_or_ge i (pre ++ js).length with h2 | h2
    · -- strictly inside the block: both neighbours are pinned, which the rule refuses
      rw [List.length_append] at h2
      obtain ⟨p, hp, ep⟩ := getElem?_block pre js post (Nat.le_sub_one_of_lt h1) (Nat.lt_of_le_of_lt (Nat.sub_le i 1) h2)
      obtain ⟨n, hn, en⟩ := getElem?_block pre js post (Nat.le_of_lt h1) h2
      rw [prevAt, if_neg (Nat.ne_of_gt (Nat.zero_lt_of_lt h1)), nextAt, ep, en,
        canInsert_between_pinned pos hx hp hn] at hc
      cases hc
    · rw [insertJob_append_right h2]
      exact List.infix_append ..
  · rw [List.append_assoc, insertJob_append_left h1]
    exact List.infix_append' ..

example : canInsert .any [5, 6] (some 9) (prevAt ([1] ++ [5, 6] ++ [2]) 1) (nextAt ([1] ++ [5, 6] ++ [2]) 1) = true := by decide
example : canInsert .any [5, 6] (some 9) (prevAt ([1] ++ [5, 6] ++ [2]) 2) (nextAt ([1] ++ [5, 6] ++ [2]) 2) = false := by decide
example : canInsert .departure [5, 6] (some 9) (prevAt ([] ++ [5, 6] ++ [2]) 0) (nextAt ([] ++ [5, 6] ++ [2]) 0) = false := by decide
example : isInfix [5, 6] (insertJob ([1] ++ [5, 6] ++ [2]) 3 9) = true := by decide
example : pinTourB ⟨[0], "strict", [5, 6]⟩ 0 [1, 5, 9, 6] = false := by decide
example : pinTourB ⟨[0], "sequence", [5, 6]⟩ 0 [1, 5, 9, 6] = true := by decide
example : pinTourB ⟨[0], "any", [5, 6]⟩ 1 [6] = false := by decide

theorem filter_eq_of_block (js pre post : List Nat)
    (h : (pre ++ js ++ post).filter js.contains = js) :
    pre.filter js.contains = [] ∧ post.filter js.contains = [] := by
  have hjs : js.filter js.contains = js := List.filter_eq_self.mpr fun a ha => List.contains_iff_mem.mpr ha
  rw [List.filter_append, List.filter_append, hjs] at h
  have hlen := congrArg List.length h
  simp only [List.length_append] at hlen
  have : (pre.filter js.contains).length = 0 ∧ (post.filter js.contains).length = 0 := by lia
  exact ⟨List.eq_nil_of_length_eq_zero this.1, List.eq_nil_of_length_eq_zero this.2⟩

theorem pinTourB_strict_move {pin : Pin} {actor : Nat} {acts acts' : List Nat}
    (hs : pin.order = "strict") (ha : pin.actors.contains actor = true)
    (hpin : pinTourB pin actor acts = true)
    (hf : acts'.filter pin.jobs.contains = acts.filter pin.jobs.contains)
    (hb : ∀ pre post, acts = pre ++ pin.jobs ++ post → isInfix pin.jobs acts' = true) :
    pinTourB pin actor acts' = true := by
  simp only [pinTourB, hs, ha, String.reduceBEq, Bool.not_true, Bool.false_eq_true, if_false, Bool.or_eq_true,
    Bool.and_eq_true, List.isEmpty_iff, beq_iff_eq] at hpin ⊢
  rcases hpin with h0 | ⟨hjobs, hinf⟩
  · exact Or.inl (hf.trans h0)
  · obtain ⟨pre, post, e⟩ := (isInfix_iff _ _).mp hinf
    exact Or.inr ⟨hf.trans hjobs, hb pre post e⟩

theorem filter_insertJob_outside (js acts : List Nat) (i x : Nat) (hx : x ∉ js) :
    (insertJob acts i x).filter js.contains = acts.filter js.contains := by
  rw [insertJob, List.filter_append, List.filter_cons, if_neg (by simpa using hx), ← List.filter_append,
    List.take_append_drop]

theorem filter_remove_outside (js acts : List Nat) (y : Nat) (hy : y ∉ js) :
    (acts.filter (· != y)).filter js.contains = acts.filter js.contains := by
  rw [List.filter_filter]
  refine List.filter_congr fun a _ => ?_
  cases hm : js.contains a with
  | false => exact Bool.false_and _
  | true => exact (Bool.true_and _).trans (bne_iff_ne.mpr fun e => hy (e ▸ List.contains_iff_mem.mp hm))

set_option linter.unusedVariables false in
theorem pinTourB_strict_insert (pos : LockPos) (pin : Pin) (actor : Nat) (acts : List Nat) (x i : Nat)
    (hs : pin.order = "strict") (ha : pin.actors.contains actor = true)
    (hx : x ∉ pin.jobs)
    (hpin : pinTourB pin actor acts = true)
    (hocc : acts.filter pin.jobs.contains ≠ [])
    (hc : canInsert pos pin.jobs (some x) (prevAt acts i) (nextAt acts i) = true) :
    pinTourB pin actor (insertJob acts i x) = true :=
  pinTourB_strict_move hs ha hpin (filter_insertJob_outside pin.jobs acts i x hx) fun pre post e => by
    subst e; exact strict_block_survives_insert pos pin.jobs pre post x i hx hc

set_option linter.unusedVariables false in
theorem pinTourB_strict_removal (pin : Pin) (actor : Nat) (acts : List Nat) (y : Nat)
    (hs : pin.order = "strict") (ha : pin.actors.contains actor = true)
    (hy : y ∉ pin.jobs)
    (hpin : pinTourB pin actor acts = true)
    (hocc : acts.filter pin.jobs.contains ≠ []) :
    pinTourB pin actor (acts.filter (· != y)) = true :=
  pinTourB_strict_move hs ha hpin (filter_remove_outside pin.jobs acts y hy) fun pre post e => by
    subst e; exact strict_block_survives_removal pin.jobs pre post y hy

/-! ## the removal tracker and the insertion heuristic

Whatever the random choices of the real code were, the bookkeeping models are runs of the machine, so they inherit its
invariants. The driver checks on elementary-step traces of the REAL functions (removal tracker through
hook H3, `InsertionHeuristic::process` with an observing evaluator) that these models reproduce the real state after
every call. -/

theorem Inv.reachable {n : Nat} {fleet : List Actor} {c c' : Ctx} (h : Inv n fleet c) :
    Reachable c c' → Inv n fleet c'
  | ⟨ops, hr⟩ => steps_preserve_inv n fleet ops c c' h hr

theorem tryRemoveJob_reachable (sizes : List Nat) (t : Tracker) (c : Ctx) (r : Nat) (j : Job) :
    Reachable c (tryRemoveJob sizes t c r j).2.1 := by
  unfold tryRemoveJob
  split
  · exact .refl c
  · split
    · next hs => exact .step hs
    · exact .refl c

theorem tryRemoveJob_inv (n : Nat) (fleet : List Actor) (sizes : List Nat) (t : Tracker) (c : Ctx) (r : Nat) (j : Job)
    (h : Inv n fleet c) : Inv n fleet (tryRemoveJob sizes t c r j).2.1 :=
  h.reachable (tryRemoveJob_reachable sizes t c r j)

theorem removeAll_eq_run (c : Ctx) (r : Nat) (js : List Job) : removeAll c r js = run c (js.map (.remove · r)) := by
  induction js generalizing c with
  | nil => rfl
  | cons j js ih => simp only [removeAll, List.map_cons, run, ih]

theorem removeAll_inv (n : Nat) (fleet : List Actor) (r : Nat) : ∀ (js : List Job) (c c' : Ctx),
    Inv n fleet c → removeAll c r js = some c' → Inv n fleet c' :=
  fun js c _ h hs => h.reachable ⟨_, removeAll_eq_run c r js ▸ hs⟩

theorem tryRemoveRoute_reachable {sizes : List Nat} {t t' : Tracker} {c c' : Ctx} {r : Nat} {whole : Bool}
    {removed : List Job} {ok : Bool} (hs : tryRemoveRoute sizes t c r whole removed = some (t', c', ok)) :
    Reachable c c' := by
  by_cases hb : t.routes = 0 ∨ t.acts = 0
  · simp only [tryRemoveRoute, if_pos hb, Option.ite_none_right_eq_some, Option.some.injEq, Prod.mk.injEq] at hs
    exact hs.2.2.1 ▸ .refl c
  · cases hrt : c.routes[r]? with
    | none => simp only [tryRemoveRoute, if_neg hb, hrt, reduceCtorEq] at hs
    | some rt =>
      cases whole <;>
        simp only [tryRemoveRoute, if_neg hb, hrt, if_true, Bool.false_eq_true, if_false,
          Option.ite_none_right_eq_some, Option.ite_none_left_eq_some, Option.map_eq_some_iff, Prod.mk.injEq] at hs
      · obtain ⟨-, -, c1, h1, -, rfl, -⟩ := hs
        exact ⟨_, removeAll_eq_run c r removed ▸ h1⟩
      · obtain ⟨-, c1, h1, -, rfl, -⟩ := hs
        exact .step h1

theorem tryRemoveRoute_inv (n : Nat) (fleet : List Actor) (sizes : List Nat) (t t' : Tracker) (c c' : Ctx) (r : Nat)
    (whole : Bool) (removed : List Job) (ok : Bool)
    (h : Inv n fleet c) (hs : tryRemoveRoute sizes t c r whole removed = some (t', c', ok)) : Inv n fleet c' :=
  h.reachable (tryRemoveRoute_reachable hs)

theorem applyResult_reachable {c c' : Ctx} {e : EvalResult} (hs : applyResult c e = some c') : Reachable c c' := by
  cases e with
  | success j a =>
    simp only [applyResult] at hs
    split at hs <;> exact .step hs
  | failure => exact .step (op := .finalize) hs

theorem applyResult_inv (n : Nat) (fleet : List Actor) (c c' : Ctx) (e : EvalResult)
    (h : Inv n fleet c) (hs : applyResult c e = some c') : Inv n fleet c' :=
  h.reachable (applyResult_reachable hs)

theorem applyResults_reachable {es : List EvalResult} {c c' : Ctx} (hs : applyResults c es = some c') :
    Reachable c c' := by
  induction es generalizing c with
  | nil => cases hs; exact .refl _
  | cons e es ih =>
    obtain ⟨c1, h1, h2⟩ := Option.bind_eq_some_iff.mp hs
    exact (applyResult_reachable h1).trans (ih h2)

theorem applyResults_inv (n : Nat) (fleet : List Actor) : ∀ (es : List EvalResult) (c c' : Ctx),
    Inv n fleet c → applyResults c es = some c' → Inv n fleet c' :=
  fun _ _ _ h hs => h.reachable (applyResults_reachable hs)

theorem ucnt_filter_split (a : Actor) (p : Route → Bool) : ∀ rs : List Route,
    ucnt a (rs.filter p) + ucnt a (rs.filter (fun r => !p r)) = ucnt a rs := by
  intro rs
  rw [← ucnt_append]
  exact ((List.filter_append_perm p rs).map _).count_eq a

theorem dropEmpty_reg (fleet : List Actor) (c : Ctx) (h : RegPart fleet c) : RegPart fleet (dropEmpty c) := by
  intro a
  have hs := ucnt_filter_split a (fun r => !r.jobs.isEmpty) c.routes
  simp only [Bool.not_not] at hs
  rw [← h a, ← hs]
  simp +arith only [dropEmpty, List.count_append, ucnt]

/-- `InsertionHeuristic::process` is a run of the machine that ends with `finalize`, followed by `remove_empty_routes` -/
theorem processWith_eq_some {c c' : Ctx} {results : List EvalResult} (hs : processWith c results = some c') :
    ∃ c3, Reachable c c3 ∧ c3.required = [] ∧ c' = dropEmpty c3 := by
  simp only [processWith, Option.bind_eq_some_iff, Option.map_eq_some_iff] at hs
  obtain ⟨c2, ⟨c1, h1, h2⟩, c3, h3, rfl⟩ := hs
  exact ⟨c3, ((Reachable.step h1).trans (applyResults_reachable h2)).trans (.step h3),
    finalize_no_required c2 c3 h3, rfl⟩

theorem processWith_inv (n : Nat) (fleet : List Actor) (c c' : Ctx) (results : List EvalResult)
    (h : Inv n fleet c) (hs : processWith c results = some c') : Inv n fleet c' := by
  obtain ⟨c3, hr, -, rfl⟩ := processWith_eq_some hs
  have h3 := h.reachable hr
  exact ⟨dropEmpty_part _ c3 h3.1, dropEmpty_reg fleet c3 h3.2⟩

theorem processWith_finalized (c c' : Ctx) (results : List EvalResult) (hs : processWith c results = some c') :
    c'.required = [] ∧ ∀ r ∈ c'.routes, r.jobs ≠ [] := by
  obtain ⟨c3, -, h0, rfl⟩ := processWith_eq_some hs
  exact ⟨h0, dropEmpty_no_empty_route c3⟩

theorem tryRemoveJob_locked_refused (sizes : List Nat) (t : Tracker) (c : Ctx) (r : Nat) (j : Job) (hl : j ∈ c.locked) :
    (tryRemoveJob sizes t c r j).2.2 = false := by
  unfold tryRemoveJob
  split
  · rfl
  · split
    · next hs => cases Step.of_step hs with | remove _ _ hnl => exact absurd hl hnl
    · rfl

example : (tryRemoveJob [1, 1, 1] ⟨2, 1⟩ { ex0 with routes := [⟨7, [1, 2]⟩], required := [3], available := [8] } 0 1).2.2 = true := by decide
example : (tryRemoveJob [1, 1, 1] ⟨2, 1⟩ { ex0 with routes := [⟨7, [1, 2]⟩], required := [3], available := [8] } 0 2).2.2 = false := by decide
example : (tryRemoveRoute [1, 1, 1] ⟨5, 1⟩ { ex0 with locked := [], routes := [⟨7, [1, 2]⟩], required := [3], available := [8] } 0 false [1]).isNone = true := by decide
example : (processWith { ex0 with locked := [] } [.success 1 7, .success 2 7, .failure]).isSome = true := by decide

end C04
