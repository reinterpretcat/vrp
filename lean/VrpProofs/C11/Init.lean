import VrpModel.C11Init
namespace C11.Init

theorem findIdxFrom_eq (p : α → Bool) (l : List α) (i : Nat) :
    findIdxFrom p l i = (l.findIdx? p).map (· + i) := by
  fun_induction findIdxFrom p l i with
  | case1 => rfl
  | case2 a as i ha => simp [List.findIdx?_cons, ha]
  | case3 a as i ha ih => simp [List.findIdx?_cons, ha, ih, Function.comp_def, Nat.add_comm, Nat.add_left_comm]

theorem findIdxFrom_none {p : α → Bool} {l : List α} (i : Nat) (h : ∀ y ∈ l, p y = false) :
    findIdxFrom p l i = none := by
  rw [findIdxFrom_eq, List.findIdx?_eq_none_iff.2 h]; rfl

theorem findIdxFrom_spec {p : α → Bool} {l : List α} {k : Nat} (i : Nat) {x : α}
    (hk : l[k]? = some x) (hp : p x = true) (hlt : ∀ j y, j < k → l[j]? = some y → p y = false) :
    findIdxFrom p l i = some (i + k) := by
  obtain ⟨hkl, rfl⟩ := List.getElem?_eq_some_iff.1 hk
  rw [findIdxFrom_eq, List.findIdx?_eq_some_iff_getElem.2 ⟨hkl, hp, fun j hj =>
    Bool.not_eq_true _ ▸ hlt j _ hj (List.getElem?_eq_getElem _)⟩, Option.map_some, Nat.add_comm]
theorem matchSingles_spec (c : Ctx) {singles : List Single} {t : Nat} (i : Nat) {p : Nat} {s : Single}
    (ht : singles[t]? = some s) (hm : matchPlace s true true c = some p)
    (hlt : ∀ j s', j < t → singles[j]? = some s' → matchPlace s' true true c = none) :
    matchSingles true c singles i = some (i + t, p) := by
  fun_induction matchSingles true c singles i generalizing t with
  | case1 => cases ht
  | case2 a as i q ha =>
    cases t with
    | zero => cases ht; cases ha.symm.trans hm; rfl
    | succ t => cases (hlt 0 a t.succ_pos rfl).symm.trans ha
  | case3 a as i ha ih =>
    cases t with
    | zero => cases ht; cases hm.symm.trans ha
    | succ t =>
      rw [ih ht fun j s' hj hs => hlt (j+1) s' (Nat.succ_lt_succ hj) hs, Nat.add_right_comm, Nat.add_assoc]

theorem matchPlace_sameIds (s : Single) (isJob : Bool) (c : Ctx) :
    matchPlace s true isJob c = findIdxFrom (fun pl => placeMatches pl c) s.places 0 := by
  cases isJob <;> rfl

theorem endOf_eq (a : Act) (d : Int) (h : a.dur = Q * d) : endOf a = startOf a + d := by
  rw [endOf, startOf, fmt, fmt, h]
  exact Int.add_mul_ediv_left _ d (by decide)

theorem servedAt_spec {pl : Place} {a : Act} (hs : servedAt pl a = true) :
    pl.loc = some a.loc ∧ endOf a = startOf a + pl.dur ∧ fmt a.dep = endOf a ∧ 0 ≤ pl.dur ∧
    ∃ wp ∈ pl.spans, wp.offset = false ∧ wp.s ≤ startOf a ∧ startOf a ≤ wp.e := by
  simp only [servedAt, Bool.and_eq_true, List.any_eq_true, beq_iff_eq, decide_eq_true_eq,
    Bool.not_eq_true'] at hs
  obtain ⟨⟨⟨⟨hloc, hdur⟩, hdep⟩, hnn⟩, wp, hwp, ⟨hoff, h1⟩, h2⟩ := hs
  exact ⟨hloc, endOf_eq a pl.dur hdur, hdep, hnn, wp, hwp, hoff, h1, h2⟩

theorem placeMatches_self (pl : Place) (a : Act) (c : Ctx) (hs : servedAt pl a = true)
    (hl : c.loc = a.loc) (ht : c.time = (startOf a, endOf a)) (hg : c.tag = pl.tag) :
    placeMatches pl c = true := by
  obtain ⟨hloc, hend, -, hnn, wp, hwp, hoff, h1, h2⟩ := servedAt_spec hs
  simp only [placeMatches, Bool.and_eq_true, List.any_eq_true, hg, hloc, hl, beq_self_eq_true, true_and]
  refine ⟨wp, hwp, ?_⟩
  simp only [Span.window, hoff, intersects, ht, hend, Bool.and_eq_true, decide_eq_true_eq,
    Bool.false_eq_true, if_false]
  omega

theorem placeMatches_other (pl q : Place) (a : Act) (c : Ctx) (hs : servedAt pl a = true)
    (hap : placesApart pl q = true)
    (hl : c.loc = a.loc) (ht : c.time = (startOf a, endOf a)) (hg : c.tag = pl.tag) :
    placeMatches q c = false := by
  refine Bool.eq_false_iff.2 fun hm => ?_
  obtain ⟨hloc, hend, -, hnn, wp, hwp, hoff, h1, h2⟩ := servedAt_spec hs
  simp only [placeMatches, Bool.and_eq_true, List.any_eq_true, beq_iff_eq] at hm
  obtain ⟨⟨hqt, hql⟩, wq, hwq, hi⟩ := hm
  simp only [placesApart, Bool.or_eq_true, bne_iff_ne, ne_eq, List.all_eq_true] at hap
  rcases hap with (htag | hlocs) | hfar
  · exact htag (hqt.trans hg).symm
  · rw [hloc] at hlocs
    cases hq : q.loc with
    | none => simp [hq] at hlocs
    | some b =>
      simp only [hq, bne_iff_ne, ne_eq] at hlocs
      simp only [hq, beq_iff_eq] at hql
      exact hlocs (hl ▸ hql).symm
  · -- both windows absolute: the written interval `[start, start + duration]` misses `wq`
    have h4 := hfar wp hwp wq hwq
    simp only [Bool.and_eq_true, Bool.not_eq_true', Bool.or_eq_true, decide_eq_true_eq] at h4
    obtain ⟨⟨_, hqoff⟩, hsep⟩ := h4
    simp only [Span.window, hqoff, intersects, ht, hend, Bool.and_eq_true, decide_eq_true_eq,
      Bool.false_eq_true, if_false] at hi
    omega

theorem mem_allPlaces (jd : JobDef) (i q : Nat) (s : Single) (pl : Place)
    (hs : jd.singles[i]? = some s) (hp : s.places[q]? = some pl) : ((i, q), pl) ∈ allPlaces jd := by
  simp only [allPlaces, List.mem_flatMap, List.mem_map]
  exact ⟨(s, i), List.mem_zipIdx_iff_getElem?.mpr hs, (pl, q), List.mem_zipIdx_iff_getElem?.mpr hp, rfl⟩

theorem placesDistinguishable_spec (jd : JobDef) (h : placesDistinguishable jd = true)
    (i q i' q' : Nat) (s s' : Single) (pl pl' : Place)
    (hs : jd.singles[i]? = some s) (hp : s.places[q]? = some pl)
    (hs' : jd.singles[i']? = some s') (hp' : s'.places[q']? = some pl')
    (hne : (i, q) ≠ (i', q')) : placesApart pl pl' = true := by
  simp only [placesDistinguishable, List.all_eq_true] at h
  have := h _ (mem_allPlaces jd i q s pl hs hp) _ (mem_allPlaces jd i' q' s' pl' hs' hp')
  simp only [Bool.or_eq_true, beq_iff_eq] at this
  exact this.resolve_left hne

theorem find_id (P : Problem) (id : String) (jd : JobDef) (h : P.find id = some jd) : jd.id = id := by
  simpa using List.find?_some h

theorem placeOf_some (P : Problem) (a : Act) (jd : JobDef) (pl : Place) (h : placeOf P a = some (jd, pl)) :
    P.find a.job = some jd ∧ ∃ s, jd.singles[a.task]? = some s ∧ s.places[a.place]? = some pl := by
  simp only [placeOf] at h
  split at h
  · rename_i jd' hj
    split at h
    · rename_i s hs
      split at h
      · rename_i pl' hp
        cases h
        exact ⟨hj, s, hs, hp⟩
      · cases h
    · cases h
  · cases h

theorem tagOf_eq (P : Problem) (a : Act) (jd : JobDef) (pl : Place) (h : placeOf P a = some (jd, pl)) :
    tagOf P a = pl.tag := by
  obtain ⟨hj, s, hs, hp⟩ := placeOf_some P a jd pl h
  simp only [tagOf, hj, hs, hp]

theorem jobKind_not_terminal (k : String) (h : (isCustomerKind k || isBoundKind k) = true) :
    (k == "departure" || k == "arrival") = false := by
  simp only [isCustomerKind, isBoundKind, Bool.or_eq_true, beq_iff_eq] at h
  rcases h with (((h | h) | h) | h) | ((h | h) | h) <;> simp [h]

/-- **the matcher finds the place the solver used** (`try_match_point_job` on what the writer wrote) -/
theorem matchAct_customer (P : Problem) (vehicle : String) (shift : Nat) (rs : Int) (a : Act)
    (jd : JobDef) (pl : Place)
    (hk : isCustomerKind a.kind = true)
    (hpo : placeOf P a = some (jd, pl))
    (hsv : servedAt pl a = true)
    (hd : placesDistinguishable jd = true)
    (hmt : (decide (jd.singles.length ≤ 1) || multiTagsOk jd) = true) :
    matchAct P vehicle shift (ctxOfAct P rs a)
      = .ok (some (jd, { job := a.job, task := a.task, place := a.place, loc := a.loc })) := by
  obtain ⟨hj, s, hs, hp⟩ := placeOf_some P a jd pl hpo
  have hid := find_id P a.job jd hj
  let c := ctxOfAct P rs a
  have hcg : c.tag = pl.tag := tagOf_eq P a jd pl hpo
  have hcj : c.jobId = a.job := if_pos hk
  have hck : c.kind = a.kind := rfl
  have hother : ∀ i q s' y, jd.singles[i]? = some s' → s'.places[q]? = some y → (a.task, a.place) ≠ (i, q) →
      placeMatches y c = false := fun i q s' y hs' hq hne =>
    placeMatches_other pl y a c hsv
      (placesDistinguishable_spec jd hd a.task a.place i q s s' pl y hs hp hs' hq hne) rfl rfl hcg
  have hself : matchPlace s true true c = some a.place := by
    rw [matchPlace_sameIds, ← a.place.zero_add]
    exact findIdxFrom_spec 0 hp (placeMatches_self pl a c hsv rfl rfl hcg) fun j y hj hy =>
      hother a.task j s y hs hy fun e => Nat.lt_irrefl _ ((Prod.mk.inj e).2 ▸ hj)
  have hearlier : ∀ j s', j < a.task → jd.singles[j]? = some s' → matchPlace s' true true c = none := by
    intro j s' hj hs'
    rw [matchPlace_sameIds]
    refine findIdxFrom_none 0 fun y hy => ?_
    obtain ⟨q, hq⟩ := List.getElem?_of_mem hy
    exact hother j q s' y hs' hq fun e => Nat.lt_irrefl _ ((Prod.mk.inj e).1 ▸ hj)
  have hms := matchSingles_spec c 0 hs hself hearlier
  rw [Nat.zero_add] at hms
  have hnd := jobKind_not_terminal a.kind (by rw [hk]; rfl)
  have hmulti : (decide (jd.singles.length > 1) && !multiTagsOk jd) = false := by
    simp only [gt_iff_lt, ← Nat.not_le, decide_not, ← Bool.not_or, hmt, Bool.not_true]
  show matchAct P vehicle shift c = _
  simp only [matchAct, hck, hnd, Bool.false_eq_true, if_false, hk, if_true, hcj, hj, hmulti, hid,
    beq_self_eq_true, hms]
  rfl

/-! ## what the reader sees of a written tour -/

/-- departure / arrival activities are skipped by the reader whatever else they carry -/
def norm (c : Ctx) : Ctx :=
  if c.kind == "departure" || c.kind == "arrival" then
    { routeStart := 0, loc := 0, time := (0, 0), kind := c.kind, jobId := "", tag := none }
  else c

theorem matchAct_norm (P : Problem) (v : String) (sh : Nat) (c : Ctx) :
    matchAct P v sh (norm c) = matchAct P v sh c := by
  unfold norm
  split
  · rename_i h
    simp only [matchAct, h, if_true]
  · rfl

theorem groupRuns_flatten (l : List Act) : (groupRuns l).flatMap (fun run => run.1 :: run.2) = l := by
  fun_induction groupRuns l with
  | case1 => rfl
  | case2 a as b r rs hg _ ih => rw [hg] at ih; simpa using ih
  | case3 a as b r rs hg _ ih => rw [hg] at ih; simpa using ih
  | case4 a as hg ih => rw [hg] at ih; simpa using ih.symm

theorem groupRuns_head (a : Act) (as : List Act) : ∃ r rs, groupRuns (a :: as) = (a, r) :: rs := by
  simp only [groupRuns]
  split
  · split
    · exact ⟨_, _, rfl⟩
    · exact ⟨_, _, rfl⟩
  · exact ⟨_, _, rfl⟩

/-- departure / arrival, or the activity leaves when it is done -/
def good (a : Act) : Prop := a.kind = "departure" ∨ a.kind = "arrival" ∨ fmt a.dep = endOf a

theorem lastOf_single (a : Act) : lastOf a [] = a := rfl

theorem view_multi (P : Problem) (rs : Int) (s : WStop) (n : Nat) (x : Act) :
    norm (ctxOfW rs s (wact P n x)) = norm (ctxOfAct P rs x) := by
  by_cases hd : x.kind = "departure"
  · simp [norm, ctxOfW, wact, ctxOfAct, hd]
  · have : (x.kind == "departure") = false := by simpa using hd
    simp [ctxOfW, wact, ctxOfAct, this]

/-- `cleanSingle` removes the location (always equal to the stop's) and, when the service starts on arrival,
    the interval; `ctxOfW` refills both from the stop, whose `(arrival, departure)` is then
    `(startOf a, endOf a)` because `a` is `good` -/
theorem view_single (P : Problem) (rs : Int) (a : Act) (hg : good a) :
    norm (ctxOfW rs (stopOfRun P (a, [])) (cleanSingle (fmt a.arr) a.loc (wact P 1 a)))
      = norm (ctxOfAct P rs a) := by
  show norm (ctxOfW rs { loc := a.loc, arrival := fmt a.arr, departure := fmt a.dep, acts := _ } _) = _
  by_cases hd : a.kind = "departure"
  · simp [norm, ctxOfW, wact, ctxOfAct, cleanSingle, hd]
  · have hdb : (a.kind == "departure") = false := by simpa using hd
    by_cases ha : a.kind = "arrival"
    · simp [norm, ctxOfW, wact, ctxOfAct, cleanSingle, ha]
    · have hdep : fmt a.dep = endOf a := by
        rcases hg with h | h | h
        · exact absurd h hd
        · exact absurd h ha
        · exact h
      by_cases hs : fmt a.arr = startOf a
      · simp [ctxOfW, wact, ctxOfAct, cleanSingle, hdb, hs, hdep]
      · simp [ctxOfW, wact, ctxOfAct, cleanSingle, hdb, hs]

theorem view_run (P : Problem) (rs : Int) (run : Act × List Act) (hg : ∀ x ∈ run.1 :: run.2, good x) :
    ((stopOfRun P run).acts.map (ctxOfW rs (stopOfRun P run))).map norm
      = (run.1 :: run.2).map (fun x => norm (ctxOfAct P rs x)) := by
  obtain ⟨a, r⟩ := run
  cases r with
  | nil => exact congrArg (· :: []) (view_single P rs a (hg a List.mem_cons_self))
  | cons b r' =>
    simp only [stopOfRun, List.map_map]
    apply List.map_congr_left
    intro x _
    exact view_multi P rs _ _ x

theorem routeStart_written (P : Problem) (st : Act) (rest : List Act) (hk : st.kind = "departure") :
    routeStartOf ((groupRuns (st :: rest)).map (stopOfRun P)) = fmt st.dep := by
  obtain ⟨r, rs, hgr⟩ := groupRuns_head st rest
  rw [hgr]
  cases r with
  | nil => simp [routeStartOf, stopOfRun, wact, cleanSingle, hk, lastOf]
  | cons b r' => simp [routeStartOf, stopOfRun, wact, hk]

/-- **the reader's view of a written tour** is the solver's activities as `ctxOfAct` renders them, up to
    the content of the departure / arrival entries, which the reader skips -/
theorem view_written (P : Problem) (t : Tour) (st : Act) (rest : List Act) (ht : t.acts = st :: rest)
    (hk : st.kind = "departure") (hg : ∀ x ∈ t.acts, good x) :
    (viewTour (writeTour P t)).map norm = t.acts.map (fun x => norm (ctxOfAct P (fmt st.dep) x)) := by
  simp only [viewTour, writeTour]
  rw [ht, routeStart_written P st rest hk, ← ht]
  have hflat := groupRuns_flatten t.acts
  have hall : ∀ run ∈ groupRuns t.acts, ∀ x ∈ run.1 :: run.2, good x := by
    intro run hrun x hx
    apply hg
    rw [← hflat]
    exact List.mem_flatMap.mpr ⟨run, hrun, hx⟩
  generalize groupRuns t.acts = runs at hflat hall
  rw [← hflat]
  clear hflat
  induction runs with
  | nil => rfl
  | cons run runs ih =>
    simp only [List.map_cons, List.flatMap_cons, List.map_append]
    rw [view_run P (fmt st.dep) run (hall run (by simp))]
    rw [ih (fun run' h' => hall run' (by simp [h']))]
    simp

/-! ## bookkeeping of `read_init_solution` -/

theorem readActs_norm (P : Problem) (v : String) (sh : Nat) : ∀ (cs : List Ctx) (added : List String),
    readActs P v sh (cs.map norm) added = readActs P v sh cs added := by
  intro cs
  induction cs with
  | nil => intro added; rfl
  | cons c cs ih =>
    intro added
    simp only [List.map_cons, readActs, matchAct_norm, ih]

def isJobAct (a : Act) : Bool := isCustomerKind a.kind || isBoundKind a.kind

def Resolves (P : Problem) (v : String) (sh : Nat) (rs : Int) (a : Act) : Prop :=
  ((a.kind = "departure" ∨ a.kind = "arrival") ∧ isJobAct a = false) ∨
  (∃ jd ra, matchAct P v sh (ctxOfAct P rs a) = .ok (some (jd, ra)) ∧ P.find a.job = some jd ∧ ra.job = a.job ∧
     isJobAct a = true ∧ (jd.singles.length ≤ 1 → a.task = 0) ∧
     ((isCustomerKind a.kind = true ∧ jd.bound = false ∧
        ra = { job := a.job, task := a.task, place := a.place, loc := a.loc }) ∨
      (isCustomerKind a.kind = false ∧ jd.bound = true)))

theorem matchAct_terminal (P : Problem) (v : String) (sh : Nat) (c : Ctx)
    (h : c.kind = "departure" ∨ c.kind = "arrival") : matchAct P v sh c = .ok none := by
  rcases h with h | h <;> simp [matchAct, h]

theorem customerOnly_cons (P : Problem) (ra : RAct) (ras : List RAct) (jd : JobDef)
    (h : P.find ra.job = some jd) :
    customerOnly P (ra :: ras) = if jd.bound then customerOnly P ras else ra :: customerOnly P ras := by
  simp only [customerOnly, List.filter_cons, h]
  cases jd.bound <;> simp

theorem customerActs_cons (a : Act) (as : List Act) :
    customerActs (a :: as) = if isCustomerKind a.kind then
      { job := a.job, task := a.task, place := a.place, loc := a.loc } :: customerActs as else customerActs as := by
  simp only [customerActs, List.filter_cons]
  split <;> simp

theorem Resolves.task_zero {P v sh rs a} (h : Resolves P v sh rs a) (hj : isJobAct a = true) (jd : JobDef)
    (hf : P.find a.job = some jd) (hl : jd.singles.length ≤ 1) : a.task = 0 := by
  rcases h with ⟨_, hnj⟩ | ⟨jd', _, _, hf', _, _, htask, _⟩
  · cases hnj.symm.trans hj
  · cases hf.symm.trans hf'; exact htask hl

/-- one step of `try_insert_activity`; `hfresh`: no single job is added twice -/
theorem readActs_step {P : Problem} {v : String} {sh : Nat} {rs : Int} {a : Act} {added : List String}
    (hres : Resolves P v sh rs a)
    (hfresh : isJobAct a = true → ∀ jd, P.find a.job = some jd → jd.singles.length ≤ 1 → a.job ∉ added) :
    ∃ pre added1, (∀ id, id ∈ added1 ↔ id ∈ added ∨ isJobAct a = true ∧ a.job = id) ∧
      customerOnly P pre = customerActs [a] ∧
      ∀ cs ras added', readActs P v sh cs added1 = .ok (ras, added') →
        readActs P v sh (ctxOfAct P rs a :: cs) added = .ok (pre ++ ras, added') := by
  rcases hres with ⟨hterm, hnj⟩ | ⟨jd, ra, hm, hfind, hrj, hj, htask, hcase⟩
  · refine ⟨[], added, fun id => by simp [hnj], ?_, fun cs ras added' h => ?_⟩
    · rw [customerActs_cons, if_neg (by simp [(Bool.or_eq_false_iff.1 hnj).1])]; rfl
    · rw [readActs, matchAct_terminal P v sh _ hterm]; exact h
  · have hid := find_id P a.job jd hfind
    refine ⟨[ra], if added.contains jd.id then added else jd.id :: added, fun id => ?_, ?_,
      fun cs ras added' h => ?_⟩
    · rw [hid]
      split
      · next hc => simp only [hj, true_and]; exact ⟨.inl, fun h => h.elim (fun h => h) (· ▸ List.contains_iff_mem.1 hc)⟩
      · simp only [List.mem_cons, hj, true_and, eq_comm, or_comm]
    · rw [customerActs_cons, customerOnly_cons P ra [] jd (hrj ▸ hfind)]
      rcases hcase with ⟨hck, hb, hra⟩ | ⟨hck, hb⟩
      · simp [hck, hb, hra, customerOnly, customerActs]
      · simp [hck, hb, customerOnly, customerActs]
    · have hnodouble : (added.contains jd.id && decide (jd.singles.length ≤ 1)) = false := by
        refine Bool.eq_false_iff.2 fun hc => ?_
        rw [Bool.and_eq_true, decide_eq_true_eq] at hc
        exact hfresh hj jd hfind hc.2 (hid ▸ List.contains_iff_mem.1 hc.1)
      simp only [readActs, hm, hnodouble, Bool.false_eq_true, if_false, h, List.singleton_append]

theorem ne_of_nodup_map_filter {f : α → β} {p : α → Bool} {l₁ l₂ : List α} {x y : α}
    (hnd : (((l₁ ++ y :: l₂).filter p).map f).Nodup) (hx : x ∈ l₁) (hpx : p x = true) (hpy : p y = true) :
    f x ≠ f y := by
  rw [List.filter_append, List.filter_cons_of_pos hpy, List.map_append, List.map_cons] at hnd
  exact (List.nodup_append.1 hnd).2.2 _ (List.mem_map_of_mem (List.mem_filter.2 ⟨hx, hpx⟩)) _ List.mem_cons_self

/-- processing the written activities of one tour: no error, the customer activities come back
    unchanged, `added_jobs` grows by exactly the jobs of the tour -/
theorem readActs_ok (P : Problem) (v : String) (sh : Nat) (rs : Int) :
    ∀ (acts prev : List Act) (added : List String),
    (∀ a ∈ acts, Resolves P v sh rs a) →
    (((prev ++ acts).filter isJobAct).map (fun a => (a.job, a.task))).Nodup →
    (∀ a ∈ prev, isJobAct a = true → ∀ jd, P.find a.job = some jd → jd.singles.length ≤ 1 → a.task = 0) →
    (∀ id ∈ added, ∃ a' ∈ prev, isJobAct a' = true ∧ a'.job = id) →
    ∃ ras added', readActs P v sh (acts.map (ctxOfAct P rs)) added = .ok (ras, added') ∧
      customerOnly P ras = customerActs acts ∧
      (∀ id ∈ added', id ∈ added ∨ ∃ a' ∈ acts, isJobAct a' = true ∧ a'.job = id) ∧
      (∀ id, (id ∈ added ∨ ∃ a' ∈ acts, isJobAct a' = true ∧ a'.job = id) → id ∈ added') := by
  intro acts
  induction acts with
  | nil =>
    intro prev added _ _ _ _
    exact ⟨[], added, rfl, rfl, fun _ h => Or.inl h, fun _ h => h.elim (fun h => h) fun ⟨_, h, _⟩ => (List.not_mem_nil h).elim⟩
  | cons a acts ih =>
    intro prev added hres hnd hvalid hadd
    have hra := hres a List.mem_cons_self
    -- a single job is not added twice: its `(job, task)` would occur in `prev` already
    have hfresh : isJobAct a = true → ∀ jd, P.find a.job = some jd → jd.singles.length ≤ 1 → a.job ∉ added := by
      intro hj jd hf hl hmem
      obtain ⟨a', ha', hj', hjob'⟩ := hadd a.job hmem
      refine ne_of_nodup_map_filter hnd ha' hj' hj ?_
      rw [hjob', hvalid a' ha' hj' jd (hjob' ▸ hf) hl, hra.task_zero hj jd hf hl]
    obtain ⟨pre, added1, hmem1, hcust, hstep⟩ := readActs_step hra hfresh
    obtain ⟨ras, added', h1, h2, h3, h4⟩ := ih (prev ++ [a]) added1
      (fun x hx => hres x (List.mem_cons_of_mem _ hx)) (by rwa [List.append_assoc])
      (fun x hx hxj => (List.mem_append.1 hx).elim (hvalid x · hxj)
        fun hx => List.mem_singleton.1 hx ▸ hra.task_zero (List.mem_singleton.1 hx ▸ hxj))
      (fun id hid => ((hmem1 id).1 hid).elim
        (fun h => (hadd id h).imp fun a' h' => ⟨List.mem_append_left _ h'.1, h'.2⟩)
        fun h => ⟨a, List.mem_append_right _ (List.mem_singleton_self a), h⟩)
    have hiff : ∀ id, id ∈ added' ↔ id ∈ added ∨ ∃ a' ∈ a :: acts, isJobAct a' = true ∧ a'.job = id := fun id => by
      rw [show id ∈ added' ↔ _ from ⟨h3 id, h4 id⟩, hmem1, or_assoc]
      simp only [List.mem_cons, exists_eq_or_imp]
    refine ⟨pre ++ ras, added', hstep _ _ _ h1, ?_, fun id => (hiff id).1, fun id => (hiff id).2⟩
    rw [customerOnly, List.filter_append, ← customerOnly, ← customerOnly, hcust, h2]
    show _ = customerActs ([a] ++ acts)
    simp only [customerActs, List.filter_append, List.map_append]

theorem boundCandidates_mem (c : Ctx) {g : List JobDef} {x : JobDef × Nat × Place} :
    x ∈ boundCandidates c g → x.1 ∈ g := by
  fun_induction boundCandidates c g with
  | case1 => nofun
  | case2 jd rest s hs p hp pl hpl ih =>
    intro h
    rcases List.mem_cons.1 h with rfl | h
    · exact List.mem_cons_self
    · exact List.mem_cons_of_mem _ (ih h)
  | case3 _ _ _ _ _ _ _ ih | case4 _ _ _ _ _ ih | case5 _ _ _ ih => exact fun h => List.mem_cons_of_mem _ (ih h)

theorem matchBound_mem (c : Ctx) (g : List JobDef) (jd : JobDef) (p : Nat)
    (h : matchBound c g = some (jd, p)) : jd ∈ g := by
  simp only [matchBound] at h
  split at h
  · next x hx => cases h; exact boundCandidates_mem c (List.mem_of_find?_eq_some hx)
  · split at h
    · next x xs hc => cases h; exact boundCandidates_mem c (hc ▸ List.mem_cons_self)
    · cases h

theorem boundGroup_find (P : Problem) (v k : String) (sh : Nat) {fuel n : Nat} {jd : JobDef} :
    jd ∈ boundGroup P v k sh fuel n → P.find jd.id = some jd := by
  fun_induction boundGroup P v k sh fuel n with
  | case1 => nofun
  | case2 fuel n jd' hf ih =>
    intro h
    rcases List.mem_cons.1 h with rfl | h
    · exact find_id P _ _ hf ▸ hf
    · exact ih h
  | case3 => nofun

def ProblemOk (P : Problem) : Prop :=
  ∀ jd ∈ P.jobs, jd.bound = false →
    placesDistinguishable jd = true ∧ (decide (jd.singles.length ≤ 1) || multiTagsOk jd) = true

theorem matchAct_bound (P : Problem) (v : String) (sh : Nat) (rs : Int) (a : Act) (jd : JobDef) (p : Nat)
    (hk : isBoundKind a.kind = true) (hnc : isCustomerKind a.kind = false)
    (hm : matchBound (ctxOfAct P rs a) (boundGroup P v a.kind sh P.jobs.length 1) = some (jd, p)) :
    matchAct P v sh (ctxOfAct P rs a) = .ok (some (jd, { job := jd.id, task := 0, place := p, loc := a.loc })) := by
  have hck : (ctxOfAct P rs a).kind = a.kind := rfl
  simp only [matchAct, hck, hnc, hk, jobKind_not_terminal a.kind (by rw [hk, Bool.or_true]), Bool.false_eq_true,
    if_false, if_true, hm]
  rfl

theorem tourOk_resolves (P : Problem) (t : Tour) (hP : ProblemOk P) (hok : tourOk P t = true) :
    ∃ st rest, t.acts = st :: rest ∧ st.kind = "departure" ∧
      ∀ a ∈ t.acts, Resolves P t.vehicle t.shift (fmt st.dep) a ∧ good a := by
  rw [tourOk] at hok
  split at hok
  · cases hok
  next st rest ht =>
  simp only [Bool.and_eq_true, beq_iff_eq, List.all_eq_true] at hok
  obtain ⟨hst, hrest⟩ := hok
  have hterm : ∀ a : Act, a.kind = "departure" ∨ a.kind = "arrival" →
      Resolves P t.vehicle t.shift (fmt st.dep) a ∧ good a := fun a h =>
    ⟨.inl ⟨h, Bool.eq_false_iff.2 fun hj => by
      have := jobKind_not_terminal _ hj
      rcases h with h | h <;> simp [h] at this⟩, h.elim .inl (.inr ∘ .inl)⟩
  refine ⟨st, rest, ht, hst, fun a ha => ?_⟩
  rcases List.mem_cons.1 (ht ▸ ha) with rfl | ha
  · exact hterm _ (.inl hst)
  have h := hrest a ha
  simp only [Bool.or_eq_true, Bool.and_eq_true, beq_iff_eq, Bool.not_eq_true'] at h
  rcases h with (harr | ⟨hk, hpl⟩) | ⟨⟨⟨⟨hk, hnc⟩, htask⟩, hdep⟩, hmb⟩
  · exact hterm _ (.inr harr)
  · split at hpl
    · next jd pl hpo =>
      simp only [Bool.and_eq_true, Bool.not_eq_true'] at hpl
      obtain ⟨hb, hsv⟩ := hpl
      obtain ⟨hj, s, hs, hp⟩ := placeOf_some P a jd pl hpo
      obtain ⟨hd, hmt⟩ := hP jd (List.mem_of_find?_eq_some hj) hb
      refine ⟨.inr ⟨jd, _, matchAct_customer P t.vehicle t.shift (fmt st.dep) a jd pl hk hpo hsv hd hmt, hj, rfl,
        by rw [isJobAct, hk]; rfl, fun hl => ?_, .inl ⟨hk, hb, rfl⟩⟩, .inr (.inr (servedAt_spec hsv).2.2.1)⟩
      have := (List.getElem?_eq_some_iff.mp hs).1
      omega
    · cases hpl
  · split at hmb
    · next jd p hmatch =>
      simp only [Bool.and_eq_true, beq_iff_eq] at hmb
      obtain ⟨hid, hb⟩ := hmb
      exact ⟨.inr ⟨jd, _, matchAct_bound P t.vehicle t.shift _ a jd p hk hnc hmatch, hid ▸ boundGroup_find P t.vehicle a.kind t.shift (matchBound_mem _ _ jd p hmatch),
        hid, by rw [isJobAct, hk, Bool.or_true], fun _ => htask, .inr ⟨hnc, hb⟩⟩, .inr (.inr hdep)⟩
    · cases hmb

theorem readActs_written (P : Problem) (t : Tour) (st : Act) (rest : List Act) (ht : t.acts = st :: rest)
    (hk : st.kind = "departure") (hg : ∀ x ∈ t.acts, good x) (added : List String) :
    readActs P t.vehicle t.shift (viewTour (writeTour P t)) added
      = readActs P t.vehicle t.shift (t.acts.map (ctxOfAct P (fmt st.dep))) added := by
  rw [← readActs_norm, view_written P t st rest ht hk hg]
  have : t.acts.map (fun x => norm (ctxOfAct P (fmt st.dep) x)) = (t.acts.map (ctxOfAct P (fmt st.dep))).map norm := by
    simp
  rw [this, readActs_norm]

def pairOf (a : Act) : String × Nat := (a.job, a.task)

theorem readTours_ok (P : Problem) (hP : ProblemOk P) : ∀ (tours : List Tour) (prev : List Act) (added : List String),
    (∀ t ∈ tours, tourOk P t = true) →
    (((prev ++ tours.flatMap (·.acts)).filter isJobAct).map (fun a => (a.job, a.task))).Nodup →
    (∀ a ∈ prev, isJobAct a = true → ∀ jd, P.find a.job = some jd → jd.singles.length ≤ 1 → a.task = 0) →
    (∀ id ∈ added, ∃ a' ∈ prev, isJobAct a' = true ∧ a'.job = id) →
    ∃ rts added', readTours P (tours.map (writeTour P)) added = .ok (rts, added') ∧
      sameCustomerActs P tours rts = true ∧
      (∀ id, (id ∈ added ∨ ∃ a' ∈ tours.flatMap (·.acts), isJobAct a' = true ∧ a'.job = id) → id ∈ added') := by
  intro tours
  induction tours with
  | nil =>
    intro prev added _ _ _ _
    exact ⟨[], added, rfl, rfl, fun _ h => h.elim (fun h => h) fun ⟨_, h, _⟩ => (List.not_mem_nil h).elim⟩
  | cons t tours ih =>
    intro prev added hok hnd hvalid hadd
    obtain ⟨st, rest, ht, hst, hall⟩ := tourOk_resolves P t hP (hok t List.mem_cons_self)
    rw [List.flatMap_cons, ← List.append_assoc] at hnd
    obtain ⟨ras, added1, h1, h2, h3, h4⟩ := readActs_ok P t.vehicle t.shift (fmt st.dep) t.acts prev added
      (fun a ha => (hall a ha).1)
      (by rw [List.filter_append, List.map_append] at hnd; exact (List.nodup_append.1 hnd).1) hvalid hadd
    obtain ⟨rts, added2, g1, g2, g3⟩ := ih (prev ++ t.acts) added1 (fun t' h' => hok t' (List.mem_cons_of_mem _ h')) hnd
      (fun a ha hj => (List.mem_append.1 ha).elim (hvalid a · hj) fun ha => (hall a ha).1.task_zero hj)
      (fun id hid => (h3 id hid).elim
        (fun h => (hadd id h).imp fun a' h' => ⟨List.mem_append_left _ h'.1, h'.2⟩)
        fun ⟨a', ha', hh⟩ => ⟨a', List.mem_append_right _ ha', hh⟩)
    refine ⟨({ vehicle := t.vehicle, shift := t.shift, acts := ras } : RTour) :: rts, added2, ?_, ?_, ?_⟩
    · have hne : (writeTour P t).stops.isEmpty = false := by
        obtain ⟨r, rs, hgr⟩ := groupRuns_head st rest
        simp only [writeTour, ht, hgr]; rfl
      simp only [List.map_cons, readTours, hne, Bool.false_eq_true, if_false]
      rw [show (writeTour P t).vehicle = t.vehicle from rfl, show (writeTour P t).shift = t.shift from rfl,
        readActs_written P t st rest ht hst (fun a ha => (hall a ha).2) added, h1]
      simp only [g1]
    · simp only [sameCustomerActs, List.length_cons, List.zip_cons_cons, List.all_cons, Bool.and_eq_true,
        beq_iff_eq, decide_eq_true_eq] at g2 ⊢
      exact ⟨congrArg (· + 1) g2.1, ⟨⟨trivial, trivial⟩, h2.symm⟩, g2.2⟩
    · intro id hid
      apply g3
      rcases hid with h | ⟨a', ha', hh⟩
      · exact .inl (h4 id (.inl h))
      · rcases List.mem_append.1 ha' with ha' | ha'
        · exact .inl (h4 id (.inr ⟨a', ha', hh⟩))
        · exact .inr ⟨a', ha', hh⟩

theorem nodupB_sound [BEq α] [LawfulBEq α] : ∀ l : List α, nodupB l = true → l.Nodup := by
  intro l
  induction l with
  | nil => exact fun _ => List.nodup_nil
  | cons a l ih =>
    simp only [nodupB, Bool.and_eq_true, Bool.not_eq_true', List.contains_eq_mem, decide_eq_false_iff_not,
      List.nodup_cons]
    exact fun h => ⟨h.1, ih h.2⟩

theorem find_of_mem (P : Problem) (h : idsOk P = true) (jd : JobDef) (hm : jd ∈ P.jobs) :
    P.find jd.id = some jd := by
  have hnd := nodupB_sound _ h
  unfold Problem.find
  generalize P.jobs = l at hnd hm
  induction l with
  | nil => cases hm
  | cons a l ih =>
    obtain ⟨hna, hnd⟩ := List.nodup_cons.1 hnd
    rcases List.mem_cons.1 hm with rfl | hm
    · exact List.find?_cons_of_pos (beq_self_eq_true _)
    · rw [List.find?_cons_of_neg, ih hnd hm]
      exact fun e => hna (List.mem_map.2 ⟨jd, hm, (eq_of_beq e).symm⟩)

theorem customerIds_idem (P : Problem) (ids : List String) : customerIds P (customerIds P ids) = customerIds P ids := by
  simp [customerIds, List.filter_filter]

theorem customerIds_append (P : Problem) (a b : List String) :
    customerIds P (a ++ b) = customerIds P a ++ customerIds P b := by
  simp [customerIds]

theorem writeUnassigned_eq (P : Problem) (U : List String) : writeUnassigned P U = customerIds P U := rfl

/-- **initial-solution round trip** (partial: under the executable hypotheses `initHyp` — unique job
    ids; the places of every customer job can be told apart by tag, location, or windows further apart
    than the duration, multi-jobs carry at least as many distinct tags as tasks; every customer activity
    of the solution is served at the place it names, inside one of its windows; no task is served
    twice; every vehicle-bound activity (reload, optional break) resolves to its own marker job; the
    unassigned list names jobs of the problem and every customer job is served or unassigned.
    Excluded: required breaks (transit stops, S31), clustering (commute), indistinguishable places or
    marker jobs):

    writing the solution and reading it back as initial solution succeeds, gives the same customer-job
    activities on the same vehicle shifts, in the same order, each with the same task and place index at
    the same location, and the same set of unassigned customer jobs. -/
theorem init_roundtrip_partial (P : Problem) (tours : List Tour) (U : List String)
    (h : initHyp P tours U = true) :
    ∃ r, roundTrip P tours U = .ok r ∧
      sameCustomerActs P tours r.tours = true ∧
      sameSet (customerIds P U) (customerIds P r.unassigned) = true := by
  simp only [initHyp, traceOk, unassignedOk, Bool.and_eq_true, List.all_eq_true] at h
  obtain ⟨⟨⟨hids, hprob⟩, hnd, hok⟩, hfound, hpart⟩ := h
  have hP : ProblemOk P := fun jd hm hb => by
    simpa only [Bool.and_eq_true] using hprob jd (List.mem_filter.2 ⟨hm, by rw [hb]; rfl⟩)
  obtain ⟨rts, added, h1, h2, h3⟩ := readTours_ok P hP tours [] [] hok (nodupB_sound _ hnd)
    (fun _ h => (List.not_mem_nil h).elim) (fun _ h => (List.not_mem_nil h).elim)
  have hwfound : (writeUnassigned P U).all (fun id => (P.find id).isSome) = true :=
    List.all_eq_true.2 fun id hid => hfound id (List.mem_filter.mp hid).1
  refine ⟨{ tours := rts, unassigned := writeUnassigned P U ++
      (P.jobs.filter (fun j => !((writeUnassigned P U).reverse ++ added).contains j.id)).map (·.id) }, ?_, h2, ?_⟩
  · simp only [roundTrip, readInit, h1, hwfound, if_true]
  · simp only [customerIds_append, writeUnassigned_eq, customerIds_idem, sameSet, Bool.and_eq_true,
      List.all_eq_true, List.contains_eq_mem, decide_eq_true_eq, List.mem_append]
    refine ⟨fun id hid => .inl hid, fun id hid => hid.elim (fun h => h) fun hid => ?_⟩
    -- a customer job of the problem that was not added: it is in the solver's unassigned list
    simp only [customerIds, List.mem_filter, List.mem_map] at hid
    obtain ⟨⟨jd, ⟨hjm, hnot⟩, rfl⟩, hcust⟩ := hid
    have hf := find_of_mem P hids jd hjm
    simp only [hf, Bool.not_eq_true'] at hcust
    have := hpart jd (List.mem_filter.2 ⟨hjm, by rw [hcust]; rfl⟩)
    simp only [Bool.or_eq_true, List.any_eq_true, beq_iff_eq, List.contains_eq_mem, decide_eq_true_eq] at this
    rcases this with hu | ⟨a, ha, haj⟩
    · exact List.mem_filter.2 ⟨hu, by simp only [hf, hcust]; rfl⟩
    · refine absurd (h3 jd.id (.inr ⟨a, (List.mem_filter.1 ha).1, (List.mem_filter.1 ha).2, haj⟩)) ?_
      simp only [Bool.not_eq_true', List.mem_reverse, decide_eq_false_iff_not, not_or] at hnot
      exact hnot.2

/-! ### non-vacuity, and the excluded point -/

namespace Demo
def w (s e : Int) : Span := { offset := false, s := s, e := e }
/-- the S8b witness: job A, two places at location 1 with the same window, 600 s tag `first`, 60 s tag `second` -/
def jobA (t1 t2 : Option String) : JobDef :=
  { id := "A", bound := false,
    singles := [{ places := [{ loc := some 1, dur := 600, spans := [w 0 3600], tag := t1 },
                              { loc := some 1, dur := 60, spans := [w 0 3600], tag := t2 }] }] }
def P (t1 t2 : Option String) : Problem := { jobs := [jobA t1 t2] }
/-- the solver's tour: departure, delivery of A at its SECOND place (arrival 10 s, 60 s service), arrival -/
def tour : Tour := { vehicle := "v1", shift := 0, acts := [
  { job := "", kind := "departure", task := 0, place := 0, loc := 0, arr := 0, dep := 0, tws := 0, dur := 0 },
  { job := "A", kind := "delivery", task := 0, place := 1, loc := 1, arr := 40, dep := 280, tws := 0, dur := 240 },
  { job := "", kind := "arrival", task := 0, place := 0, loc := 0, arr := 320, dep := 320, tws := 0, dur := 0 }] }

/-- distinct tags: the hypotheses hold … -/
example : initHyp (P (some "first") (some "second")) [tour] [] = true := by decide +kernel
/-- … and the round trip gives place 1 back -/
example : roundTrip (P (some "first") (some "second")) [tour] []
    = .ok { tours := [{ vehicle := "v1", shift := 0, acts := [{ job := "A", task := 0, place := 1, loc := 1 }] }],
            unassigned := [] } := by rfl
/-- the excluded point — equal (or no) tags, same location, same window: the hypothesis fails and the
    activity really comes back at the wrong place (place 0, the 600 s one) -/
example : initHyp (P none none) [tour] [] = false := by decide +kernel
example : roundTrip (P none none) [tour] []
    = .ok { tours := [{ vehicle := "v1", shift := 0, acts := [{ job := "A", task := 0, place := 0, loc := 1 }] }],
            unassigned := [] } := by rfl
end Demo

end C11.Init
