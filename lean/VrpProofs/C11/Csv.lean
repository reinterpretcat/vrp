import VrpModel.C11Csv
import Mathlib.Data.List.Nodup
namespace C11.Csv

theorem mem_dedup [BEq α] [LawfulBEq α] : ∀ (l : List α) (x : α), x ∈ dedup l ↔ x ∈ l := by
  intro l
  induction l with
  | nil => intro x; rfl
  | cons a as ih =>
    intro x
    simp only [dedup, List.mem_cons, List.mem_filter, ih, Bool.not_eq_true', beq_eq_false_iff_ne]
    by_cases hx : x = a <;> simp [hx]

theorem nodup_dedup [BEq α] [LawfulBEq α] : ∀ (l : List α), (dedup l).Nodup := by
  intro l
  induction l with
  | nil => exact List.nodup_nil
  | cons a as ih => exact List.nodup_cons.mpr ⟨by simp [List.mem_filter], ih.filter _⟩

theorem nodupB_iff [BEq α] [LawfulBEq α] : ∀ (l : List α), nodupB l = true ↔ l.Nodup := by
  intro l
  induction l with
  | nil => exact ⟨fun _ => List.nodup_nil, fun _ => rfl⟩
  | cons a as ih => simp only [nodupB, Bool.and_eq_true, Bool.not_eq_true', List.contains_eq_mem,
      decide_eq_false_iff_not, ih, List.nodup_cons]

theorem count_filter [BEq α] [LawfulBEq α] (p : α → Bool) (a : α) (l : List α) :
    (l.filter p).count a = if p a then l.count a else 0 := by
  split
  · next h => exact List.count_filter h
  · next h => exact List.count_eq_zero.2 fun hm => h (List.mem_filter.1 hm).2

theorem mem_group (rows : List JobRow) (k : String) (r : JobRow) : r ∈ groupOf rows k ↔ r ∈ rows ∧ r.id = k := by
  simp [groupOf]

theorem importJobs_all (rows : List JobRow) (p : Job → Bool) :
    (importJobs rows).all p = true ↔ ∀ r ∈ rows, p (jobOf rows r.id) = true := by
  simp only [importJobs, List.all_map, List.all_eq_true, mem_dedup, List.mem_map, Function.comp,
    forall_exists_index, and_imp, forall_apply_eq_imp_iff₂]

theorem sumDemand_taskOf (s : Int) : ∀ l : List JobRow, (∀ r ∈ l, r.demand.sign = s) →
    s * sumDemand (l.map taskOf) = (l.map (·.demand)).sum := by
  intro l
  induction l with
  | nil => intro _; simp [sumDemand]
  | cons a l ih =>
    intro h
    have ih' := ih fun r hr => h r (List.mem_cons_of_mem _ hr)
    simp only [sumDemand, List.map_cons, List.sum_cons, Int.mul_add] at ih' ⊢
    rw [ih', ← h a List.mem_cons_self, taskOf]
    by_cases h0 : a.demand = 0
    · simp [h0]
    · simpa [h0] using Int.sign_mul_natAbs a.demand

theorem importJobs_ids (rows : List JobRow) : (importJobs rows).map (·.id) = dedup (rows.map (·.id)) := by
  simp [importJobs, jobOf, List.map_map, Function.comp_def]

theorem e1100_ok (t : Tables) : e1100 (importDoc t) = true := by
  simp only [e1100, importDoc, importJobs_ids]
  exact (nodupB_iff _).2 (nodup_dedup _)

theorem e1102_ok (t : Tables) (h : balanced t.jobs = true) : e1102 (importDoc t) = true := by
  refine (importJobs_all _ _).2 fun r hr => ?_
  have hb := List.all_eq_true.1 h r.id ((mem_dedup _ _).2 (List.mem_map_of_mem hr))
  simp only [Bool.or_eq_true, List.all_eq_true, decide_eq_true_eq, beq_iff_eq] at hb
  simp only [jobOf, Bool.or_eq_true, List.isEmpty_iff, List.map_eq_nil_iff, List.filter_eq_nil_iff,
    decide_eq_true_eq, beq_iff_eq]
  rcases hb with (hle | hge) | hsum
  · exact .inl (.inl fun r hr => Int.not_lt.2 (hle r hr))
  · exact .inl (.inr fun r hr => Int.not_lt.2 (hge r hr))
  · right
    have hp := sumDemand_taskOf 1 ((groupOf t.jobs r.id).filter fun r => decide (r.demand > 0))
      fun r hr => Int.sign_eq_one_of_pos (of_decide_eq_true (List.mem_filter.1 hr).2)
    have hd := sumDemand_taskOf (-1) ((groupOf t.jobs r.id).filter fun r => decide (r.demand < 0))
      fun r hr => Int.sign_eq_neg_one_of_neg (of_decide_eq_true (List.mem_filter.1 hr).2)
    omega

theorem e1103_ok (t : Tables) (h : t.jobs.all jobRowOk = true) : e1103 (importDoc t) = true := by
  refine (importJobs_all _ _).2 fun r0 _ => List.all_eq_true.2 fun tk htk => ?_
  obtain ⟨r, hr, rfl⟩ : ∃ r ∈ t.jobs, tk = taskOf r := by
    simp only [Job.tasks, jobOf, List.mem_append, List.mem_map, List.mem_filter] at htk
    rcases htk with (⟨r, ⟨hr, _⟩, rfl⟩ | ⟨r, ⟨hr, _⟩, rfl⟩) | ⟨r, ⟨hr, _⟩, rfl⟩ <;>
      exact ⟨r, ((mem_group _ _ _).mp hr).1, rfl⟩
  have hok := List.all_eq_true.1 h r hr
  simp only [jobRowOk, Bool.and_eq_true] at hok
  have htw := hok.2
  simp only [taskOf]
  cases hs : r.twStart <;> cases he : r.twEnd <;> simp only [hs, he, parseTw] at htw ⊢
  exact htw

theorem e1104_ok (t : Tables) (h : t.jobs.all jobRowOk = true) : e1104 (importDoc t) = true := by
  refine (importJobs_all _ _).2 fun r hr => ?_
  have hok := List.all_eq_true.1 h r hr
  simp only [jobRowOk, Bool.and_eq_true] at hok
  exact hok.1.2

theorem e1300_ok (t : Tables) (h : nodupB (t.vehicles.map (·.id)) = true) : e1300 (importDoc t) = true := by
  simp only [e1300, importDoc, List.map_map, Function.comp_def, vtypeOf]
  exact h

theorem e1301_ok (t : Tables) (h : nodupB (t.vehicles.map (·.id)) = true) : e1301 (importDoc t) = true := by
  simp only [e1301, importDoc]
  refine (nodupB_iff _).2 ?_
  have hnd := (nodupB_iff _).1 h
  rw [List.flatMap_map, List.nodup_flatMap]
  constructor
  · intro v _
    exact List.Nodup.map (fun a b hab => by simpa using hab) List.nodup_range
  · rw [List.nodup_iff_pairwise_ne, List.pairwise_map] at hnd
    refine List.Pairwise.imp ?_ hnd
    intro a b hne
    simp only [Function.onFun, vtypeOf, List.disjoint_left, List.mem_map, List.mem_range]
    rintro x ⟨i, _, rfl⟩ ⟨j, _, hj⟩
    exact hne (Prod.mk.inj hj).1.symm

theorem e1302_ok (t : Tables) (h : t.vehicles.all vehRowOk = true) : e1302 (importDoc t) = true := by
  simp only [e1302, importDoc, List.all_map, List.all_eq_true, Function.comp]
  intro v hv
  have := List.all_eq_true.1 h v hv
  simp only [vehRowOk, Bool.and_eq_true] at this
  exact this.2

theorem e1501_ok (t : Tables) (h : t.vehicles.isEmpty = false) : e1501 (importDoc t) = true := by
  simp only [e1501, importDoc]
  cases hv : t.vehicles with
  | nil => simp [hv] at h
  | cons v vs => rfl

/-- **a CSV import inside `tablesOk` is accepted and valid**: the typed parsing succeeds and none of the
    structural rules an imported document could break (duplicate job / type / vehicle ids, unbalanced
    pickup-delivery amounts, malformed or reversed windows, reserved ids, empty profile list) fires.
    `tablesOk`: every job row has `i32` demand ≠ `i32::MIN`, `usize` duration, a non-reserved id and
    `TW_START`/`TW_END` both absent or both well-formed with start ≤ end; every vehicle row has `i32`
    capacity, `usize` amount ≥ 1 and a well-formed window with start ≤ end; there is at least one vehicle
    row; vehicle `ID`s are unique; rows sharing a job `ID` have balanced positive and negative amounts
    when both signs occur. (partial: the rules of routing matrices, relations, objectives, breaks and
    reloads cannot fire on an imported document — those parts are absent — and are not modelled.) -/
theorem csv_import_valid_partial (t : Tables) (h : tablesOk t = true) :
    importCsv t = .ok (importDoc t) ∧ validate (importDoc t) = [] := by
  simp only [tablesOk, Bool.and_eq_true, Bool.not_eq_true'] at h
  obtain ⟨⟨⟨⟨hj, hv⟩, hne⟩, hnd⟩, hbal⟩ := h
  constructor
  · have hj' := List.all_eq_true.1 hj
    have hv' := List.all_eq_true.1 hv
    simp only [jobRowOk, vehRowOk, Bool.and_eq_true, bne_iff_ne, ne_eq] at hj' hv'
    have h1 : t.jobs.all (fun r => inI32 r.demand && inUsize r.duration) = true :=
      List.all_eq_true.2 fun r hr => by rw [(hj' r hr).1.1.1.1, (hj' r hr).1.1.2]; rfl
    have h2 : t.jobs.any (fun r => r.demand == -(2^31 : Int)) = false :=
      List.any_eq_false.2 fun r hr => by simpa using (hj' r hr).1.1.1.2
    have h3 : t.vehicles.all (fun v => inI32 v.capacity && inUsize v.amount) = true :=
      List.all_eq_true.2 fun v hv'' => by rw [(hv' v hv'').1.1.1, (hv' v hv'').1.1.2]; rfl
    simp only [importCsv, h1, h2, h3, Bool.not_true, Bool.false_eq_true, if_false]
  · simp only [validate, e1100_ok, e1102_ok t hbal, e1103_ok t hj, e1104_ok t hj, e1300_ok t hnd, e1301_ok t hnd,
      e1302_ok t hv, e1501_ok t hne, if_true, List.append_nil]

theorem vehRowOf_vtypeOf (v : VehRow) (h : 0 ≤ v.amount) : vehRowOf (vtypeOf v) = v := by
  cases v
  simp only [vehRowOf, vtypeOf, List.length_map, List.length_range, VehRow.mk.injEq, true_and, and_true] at h ⊢
  omega

/-- both bounds or none (a lone bound is dropped by `parse_tw`) -/
def twBoth (r : JobRow) : Bool := r.twStart.isSome == r.twEnd.isSome

theorem rowOf_taskOf (r : JobRow) (hb : twBoth r = true) : rowOf r.id r.demand.sign (taskOf r) = r := by
  obtain ⟨id, lat, lng, demand, duration, tws, twe⟩ := r
  have hd : demand.sign * (if demand ≠ 0 then some (demand.natAbs : Int) else none).getD 0 = demand := by
    by_cases h0 : demand = 0
    · simp [h0]
    · simpa [h0] using Int.sign_mul_natAbs demand
  have e : rowOf id demand.sign (taskOf ⟨id, lat, lng, demand, duration, tws, twe⟩) =
      ⟨id, lat, lng, demand, duration, (parseTw tws twe).map (·.1), (parseTw tws twe).map (·.2)⟩ := by
    simp only [rowOf, taskOf, hd]
  rw [e]
  cases tws <;> cases twe <;> first | rfl | cases hb

theorem rowsOfJob_jobOf (rows : List JobRow) (k : String) (hb : ∀ r ∈ rows, twBoth r = true) :
    rowsOfJob (jobOf rows k) =
      (groupOf rows k).filter (fun r => decide (r.demand > 0)) ++
      (groupOf rows k).filter (fun r => decide (r.demand < 0)) ++
      (groupOf rows k).filter (fun r => decide (r.demand = 0)) := by
  have key (s : Int) (p : JobRow → Bool) (hp : ∀ r, p r = true → r.demand.sign = s) :
      (((groupOf rows k).filter p).map taskOf).map (rowOf k s) = (groupOf rows k).filter p := by
    rw [List.map_map]
    refine (List.map_congr_left fun r hr => ?_).trans (List.map_id _)
    obtain ⟨hg, hd⟩ := List.mem_filter.mp hr
    obtain ⟨hin, hid⟩ := (mem_group _ _ _).mp hg
    exact hid ▸ hp r hd ▸ rowOf_taskOf r (hb r hin)
  simp only [rowsOfJob, jobOf]
  rw [key 1 _ fun r hr => Int.sign_eq_one_of_pos (of_decide_eq_true hr),
    key (-1) _ fun r hr => Int.sign_eq_neg_one_of_neg (of_decide_eq_true hr),
    key 0 _ fun r hr => (of_decide_eq_true hr : r.demand = 0) ▸ Int.sign_zero]

theorem count_split (r : JobRow) (g : List JobRow) :
    (g.filter (fun r => decide (r.demand > 0)) ++ g.filter (fun r => decide (r.demand < 0)) ++
      g.filter (fun r => decide (r.demand = 0))).count r = g.count r := by
  simp only [List.count_append, count_filter, decide_eq_true_eq]
  generalize g.count r = c
  rcases Int.lt_trichotomy r.demand 0 with h | h | h
  · rw [if_neg (Int.lt_asymm h), if_pos h, if_neg (Int.ne_of_lt h)]; exact c.zero_add
  · rw [if_neg (h ▸ Int.lt_irrefl 0), if_neg (h ▸ Int.lt_irrefl 0), if_pos h]; exact c.zero_add
  · rw [if_pos h, if_neg (Int.lt_asymm h), if_neg (Int.ne_of_gt h)]; rfl

theorem sum_indicator (c : Nat) (x : String) : ∀ (ks : List String), ks.Nodup →
    (ks.map (fun k => if x = k then c else 0)).sum = if x ∈ ks then c else 0 := by
  intro ks
  induction ks with
  | nil => intro _; simp
  | cons k ks ih =>
    intro hnd
    have hnd' := List.nodup_cons.mp hnd
    simp only [List.map_cons, List.sum_cons, ih hnd'.2, List.mem_cons]
    by_cases hx : x = k
    · subst hx
      simp [hnd'.1]
    · simp [hx]

/-- **the imported document carries exactly the tables' data** (rows with both window bounds or none;
    a lone bound is dropped by `parse_tw` — the excluded point; amounts non-negative):
    * reading the job rows back from the document (id, coordinates, duration, window, amount with the
      sign of its list: pickups +, deliveries −, services 0) gives every row of the jobs table exactly as
      often as it occurs there, and nothing else;
    * reading the vehicle rows back (type id, coordinates of the shift start, capacity, shift window,
      number of vehicle ids, profile) gives the vehicles table, in order;
    * the profile list contains exactly the `PROFILE`s of the vehicle rows. -/
theorem csv_import_carries_data (t : Tables)
    (hb : ∀ r ∈ t.jobs, twBoth r = true) (ha : ∀ v ∈ t.vehicles, 0 ≤ v.amount) :
    (∀ r, (rowsOfJobs (importDoc t).jobs).count r = t.jobs.count r) ∧
    (importDoc t).vehicles.map vehRowOf = t.vehicles ∧
    (∀ p, p ∈ (importDoc t).profiles ↔ ∃ v ∈ t.vehicles, v.profile = p) := by
  refine ⟨fun r => ?_, ?_, fun p => ?_⟩
  · -- the job of `r.id` contributes `r` as often as the table has it, every other job not at all
    simp only [rowsOfJobs, importDoc, importJobs, List.flatMap_map]
    rw [List.count_flatMap]
    have : (fun k => List.count r (rowsOfJob (jobOf t.jobs k))) = (fun k => if r.id = k then t.jobs.count r else 0) := by
      funext k
      rw [rowsOfJob_jobOf t.jobs k hb, count_split, groupOf, count_filter]
      simp only [beq_iff_eq]
    simp only [Function.comp_def, this]
    rw [sum_indicator _ _ _ (nodup_dedup _)]
    split
    · rfl
    · next hnot =>
      exact (List.count_eq_zero.2 fun hm => hnot ((mem_dedup _ _).2 (List.mem_map_of_mem hm))).symm
  · simp only [importDoc, List.map_map]
    exact (List.map_congr_left fun v hv => vehRowOf_vtypeOf v (ha v hv)).trans (List.map_id _)
  · simp only [importDoc, mem_dedup, List.mem_map]

/-! ### non-vacuity and excluded points

`+kernel`: the elaborator's own evaluation is slow on the string comparisons. -/

namespace Demo
def jr (id : String) (d : Int) (s e : Option Date) : JobRow :=
  { id := id, lat := 52000000, lng := 13000000, demand := d, duration := 300, twStart := s, twEnd := e }
def vr (id profile : String) (amount : Int) : VehRow :=
  { id := id, lat := 52100000, lng := 13100000, capacity := 10, twStart := .ok 0, twEnd := .ok 36000,
    amount := amount, profile := profile }
/-- two rows sharing job id `j1` (pickup 2 / delivery −2), a service row, two vehicle rows sharing the
    profile `car` (the S8a shape) -/
def tables : Tables :=
  { jobs := [jr "j1" 2 none none, jr "j2" 0 (some (.ok 10)) (some (.ok 900)), jr "j1" (-2) none none],
    vehicles := [vr "v1" "car" 2, vr "v2" "car" 1] }
example : tablesOk tables = true := by decide +kernel
example : validate (importDoc tables) = [] := by decide +kernel
example : (importDoc tables).vehicles.flatMap (·.vehicleIds) = [("v1", 1), ("v1", 2), ("v2", 1)] := by decide +kernel
/-- excluded point of `csv_import_carries_data`: a lone `TW_START` is dropped silently — the row does
    not come back -/
example : rowsOfJobs (importDoc { jobs := [jr "a" 1 (some (.ok 5)) none], vehicles := [] }).jobs
    = [jr "a" 1 none none] := by decide +kernel
/-- excluded points of `csv_import_valid_partial`: unbalanced amounts, duplicate vehicle id -/
example : validate (importDoc { tables with jobs := [jr "j1" 2 none none, jr "j1" (-1) none none] }) = ["E1102"] := by
  decide +kernel
example : validate (importDoc { tables with vehicles := [vr "v1" "car" 1, vr "v1" "truck" 1] }) = ["E1300", "E1301"] := by
  decide +kernel
end Demo

end C11.Csv
