import VrpProofs.C11.Codec
namespace C11

/-- what `disjointB` decides: the decoder of `t` accepts no encoding of `s`. The two fuels are
    independent: unfolding a `ref` on the left spends the encoder's only, on the right the decoder's only. -/
def Refuses (env : Env) (s t : Ty) : Prop :=
  ∀ n m v j, encode env n s v = some j → decode env m t j = none

theorem Refuses.ref_left {env a s t} (ha : env a = some s) (h : Refuses env s t) :
    Refuses env (.ref a) t := by
  intro n m v j he
  cases n with
  | zero => cases he
  | succ n => simp only [encode, ha] at he; exact h n m v j he

theorem Refuses.ref_right {env b s t} (hb : env b = some t) (h : Refuses env s t) :
    Refuses env s (.ref b) := by
  intro n m v j he
  cases m with
  | zero => rfl
  | succ m => simp only [decode, hb]; exact h n m v j he

theorem namesOKB_sound : ∀ fs, namesOKB fs = true → NamesOK fs := by
  intro fs
  induction fs with
  | nil => intro _; trivial
  | cons a fs ih =>
    obtain ⟨h, t⟩ := a
    intro hb
    simp only [namesOKB, Bool.and_eq_true, Bool.or_eq_true, List.all_eq_true] at hb
    obtain ⟨⟨h1, h2⟩, h3⟩ := hb
    refine ⟨fun f hf => by simpa using h1 f hf, fun hs => ?_, ih h3⟩
    rcases h2 with h2 | h2
    · simp [hs] at h2
    · simpa using h2

theorem prim_disjoint {p q v j} (h : primAccepts q p = false) :
    encPrim p v = some j → decPrim q j = none := by
  fun_cases encPrim p v <;> rintro ⟨⟩ <;> cases q <;> first | rfl | cases h

theorem decodeFields_none {dec} {gs : Fields} {kvs : List (String × Json)} {g : FieldHdr × Ty}
    (hg : g ∈ gs) (hnone : decodeField dec g.1 g.2 kvs = none) : decodeFields dec gs kvs = none := by
  fun_induction decodeFields dec gs kvs with
  | case1 => cases hg
  | case2 h t fs kvs v vs hvs hv ih =>
    rcases List.mem_cons.1 hg with rfl | hg
    · cases hv.symm.trans hnone
    · cases hvs.symm.trans (ih hg hnone)
  | case3 => rfl

theorem lookup_own {enc} {fs : Fields} {vs : List Val} {k} : NamesOK fs → encodeFields enc fs vs = some k →
    ∀ f ∈ fs, f.1.skipNone = false → ∃ v j, enc f.2 v = some j ∧ lookup [f.1.ser] k = some j := by
  fun_induction encodeFields enc fs vs generalizing k with
  | case1 => nofun
  | case2 hd t fs v vs hskip ih =>
    intro ⟨_, _, hn3⟩ h f hf hns
    rcases List.mem_cons.1 hf with rfl | hf
    · rw [show (hd, t).1.skipNone = false from hns] at hskip; cases hskip
    · exact ih hn3 h f hf hns
  | case3 hd t fs v vs _ j r hr hj ih =>
    rintro ⟨hn1, _, hn3⟩ ⟨⟩ f hf hns
    rcases List.mem_cons.1 hf with rfl | hf
    · exact ⟨v, j, hj, lookup_hit _ _ _ _ List.mem_cons_self⟩
    · obtain ⟨v', j', h1, h2⟩ := ih hn3 hr f hf hns
      refine ⟨v', j', h1, ?_⟩
      rw [lookup_cons, if_neg, h2]
      exact fun e => (hn1 f hf).1 (List.mem_singleton.1 e ▸ List.mem_cons_self)
  | case4 => rintro - ⟨⟩
  | case5 => rintro - ⟨⟩

theorem disjoint_sound {env : Env} {fuel s t} : disjointB env fuel s t = true → Refuses env s t := by
  fun_induction disjointB env fuel s t with
  | case2 _ p q =>
    intro h n m v j he
    cases m with
    | zero => rfl
    | succ m =>
    cases n with
    | zero => cases he
    | succ n => exact prim_disjoint (by simpa using h) he
  | case3 fuel fs gs ih =>
    -- the decoder of `gs` fails on a required field `g`: no field of `fs` writes a name of `g`, or the
    -- one field that does always writes it, with an encoding that the type of `g` refuses
    intro h n m v j he
    cases m with
    | zero => rfl
    | succ m =>
    cases n with
    | zero => cases he
    | succ n =>
    cases v
    case record vs =>
      obtain ⟨k, hk, rfl⟩ := Option.map_eq_some_iff.1 he
      simp only [Bool.and_eq_true, List.any_eq_true, Bool.or_eq_true, List.all_eq_true] at h
      obtain ⟨hnb, g, hg, hreq, hcase⟩ := h
      simp only [FieldHdr.required, Bool.and_eq_true, Option.isNone_iff_eq_none, Bool.not_eq_true'] at hreq
      simp only [decode, Option.map_eq_none_iff]
      refine decodeFields_none hg ?_
      rcases hcase with hmiss | ⟨hal, f, hf, hc⟩
      · have : lookup g.1.deNames k = none := by
          refine lookup_none_of_keys _ _ fun kv hkv => ?_
          obtain ⟨f, hf, e⟩ := encodeFields_keys hk kv hkv
          simpa [e] using hmiss f hf
        simp only [decodeField, this, hreq.1, hreq.2, Bool.false_eq_true, if_false]
      · simp only [beq_iff_eq, Bool.not_eq_true'] at hc
        obtain ⟨⟨hser, hnskip⟩, hdis⟩ := hc
        obtain ⟨v', j', h1, h2⟩ := lookup_own (namesOKB_sound fs hnb) hk f hf hnskip
        have hde : g.1.deNames = [f.1.ser] := by
          rw [FieldHdr.deNames, hser, List.isEmpty_iff.1 hal]
        simp only [decodeField, hde, h2]
        exact ih g f hdis n m v' j' h1
    all_goals cases he
  | case4 _ a t s ha ih => exact fun h => (ih h).ref_left ha
  | case6 _ s b _ t hb ih => exact fun h => (ih h).ref_right hb
  | _ => nofun

theorem mapO_safe {enc enc' : Val → Option Json} {dec : Json → Option Val}
    (h : ∀ v j w, enc v = some j → dec j = some w → enc' w = some j) :
    ∀ vs js ws, mapO enc vs = some js → mapO dec js = some ws → mapO enc' ws = some js := by
  intro vs
  induction vs with
  | nil => rintro js ws ⟨⟩ ⟨⟩; rfl
  | cons v vs ih =>
    intro js ws h1 h2
    obtain ⟨b, bs, hb, hbs, rfl⟩ := mapO_cons_eq_some.1 h1
    obtain ⟨w, ws', hw, hws, rfl⟩ := mapO_cons_eq_some.1 h2
    exact mapO_cons_eq_some.2 ⟨_, _, h v b w hb hw, ih bs ws' hbs hws, rfl⟩

theorem safe_sound {env : Env} : ∀ fuel s t, safeB env fuel s t = true → Safe env s t := by
  intro fuel
  induction fuel with
  | zero => nofun
  | succ fuel ih =>
    intro s t h n v j w he hd
    simp only [safeB, Bool.or_eq_true] at h
    rcases h with h | h
    · cases (disjoint_sound h n n v j he).symm.trans hd
    · cases n with
      | zero => cases he
      | succ n =>
      split at h
      · rename_i a b
        cases v
        case list vs =>
          obtain ⟨js, hjs, rfl⟩ := Option.map_eq_some_iff.1 he
          obtain ⟨ws, hws, rfl⟩ := Option.map_eq_some_iff.1 hd
          simp only [encode, mapO_safe (ih a b h n) _ _ _ hjs hws, Option.map_some]
        all_goals cases he
      · rename_i a b
        split at h
        · rename_i s' t' ha hb
          simp only [encode, ha] at he
          simp only [decode, hb] at hd
          simp only [encode, hb]
          exact ih s' t' h n v j w he hd
        · cases h
      · cases h
end C11
