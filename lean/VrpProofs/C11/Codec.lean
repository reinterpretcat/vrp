import VrpModel.C11
namespace C11

def NamesOK : Fields → Prop
  | [] => True
  | (h,t)::fs => (∀ f ∈ fs, f.1.ser ∉ h.deNames ∧ h.ser ∉ f.1.deNames)
                 ∧ (h.skipNone = true → t.isOpt = true ∧ h.dflt = none) ∧ NamesOK fs

def RT (enc : Ty → Val → Option Json) (dec : Ty → Json → Option Val) (t : Ty) : Prop :=
  ∀ v j, enc t v = some j → ∃ w, dec t j = some w ∧ enc t w = some j

theorem mapO_cons_eq_some {f : α → Option β} {a : α} {as : List α} {r : List β} :
    mapO f (a :: as) = some r ↔ ∃ b bs, f a = some b ∧ mapO f as = some bs ∧ b :: bs = r := by
  rw [mapO]
  cases f a <;> cases mapO f as <;> simp

theorem mapO_rt {enc : Val → Option Json} {dec : Json → Option Val}
    (h : ∀ v j, enc v = some j → ∃ w, dec j = some w ∧ enc w = some j) :
    ∀ vs js, mapO enc vs = some js → ∃ ws, mapO dec js = some ws ∧ mapO enc ws = some js := by
  intro vs
  induction vs with
  | nil => rintro js ⟨⟩; exact ⟨[], rfl, rfl⟩
  | cons v vs ih =>
    intro js hj
    obtain ⟨b, bs, hb, hbs, rfl⟩ := mapO_cons_eq_some.1 hj
    obtain ⟨w, hw1, hw2⟩ := h _ _ hb
    obtain ⟨ws, hws1, hws2⟩ := ih _ hbs
    exact ⟨w :: ws, mapO_cons_eq_some.2 ⟨_, _, hw1, hws1, rfl⟩, mapO_cons_eq_some.2 ⟨_, _, hw2, hws2, rfl⟩⟩

theorem lookup_cons (names : List String) (k : String) (j : Json) (kvs : List (String × Json)) :
    lookup names ((k, j) :: kvs) = if k ∈ names then some j else lookup names kvs := by
  by_cases h : k ∈ names <;> simp [lookup, h]

theorem lookup_hit (names : List String) (key : String) (j : Json) (k : List (String × Json))
    (h : key ∈ names) : lookup names ((key, j) :: k) = some j := by
  rw [lookup_cons, if_pos h]

theorem lookup_append_of_not_mem (names : List String) (pre k : List (String × Json))
    (h : ∀ kv ∈ pre, kv.1 ∉ names) : lookup names (pre ++ k) = lookup names k := by
  induction pre with
  | nil => rfl
  | cons a pre ih =>
    obtain ⟨key, j⟩ := a
    rw [List.cons_append, lookup_cons, if_neg (h _ List.mem_cons_self)]
    exact ih fun kv hkv => h kv (List.mem_cons_of_mem _ hkv)

theorem lookup_none_of_keys (names : List String) (k : List (String × Json))
    (h : ∀ kv ∈ k, kv.1 ∉ names) : lookup names k = none := by
  rw [← k.append_nil, lookup_append_of_not_mem names k [] h]
  rfl

theorem encodeFields_keys {enc} {fs : Fields} {vs : List Val} {k} :
    encodeFields enc fs vs = some k → ∀ kv ∈ k, ∃ f ∈ fs, kv.1 = f.1.ser := by
  fun_induction encodeFields enc fs vs generalizing k with
  | case1 => rintro ⟨⟩; simp
  | case2 h t fs v vs hskip ih =>
    intro hk kv hkv
    obtain ⟨f, hf, e⟩ := ih hk kv hkv
    exact ⟨f, List.mem_cons_of_mem _ hf, e⟩
  | case3 h t fs v vs hskip j r hr hj ih =>
    rintro ⟨⟩ kv hkv
    rcases List.mem_cons.1 hkv with rfl | hkv
    · exact ⟨(h, t), List.mem_cons_self, rfl⟩
    · obtain ⟨f, hf, e⟩ := ih hr kv hkv
      exact ⟨f, List.mem_cons_of_mem _ hf, e⟩
  | case4 => rintro ⟨⟩
  | case5 => rintro ⟨⟩

/-- a written value other than `None` is not `null`, and a decoded `None` came from `null`: what tells a
    skipped `Option` field from a written one when the field list is read back -/
def SkipOK (enc : Ty → Val → Option Json) (dec : Ty → Json → Option Val) (t : Ty) : Prop :=
  (∀ v j, enc t v = some j → v.isNone = false → j ≠ .null) ∧
  (∀ j w, dec t j = some w → w.isNone = true → j = .null)

theorem fields_rt {enc dec} {fs : Fields} {vs : List Val} {k : List (String × Json)} :
    ∀ pre : List (String × Json), NamesOK fs →
    (∀ kv ∈ pre, ∀ f ∈ fs, kv.1 ∉ f.1.deNames) →
    (∀ f ∈ fs, RT enc dec f.2 ∧ (f.1.skipNone = true → SkipOK enc dec f.2)) →
    encodeFields enc fs vs = some k →
    ∃ ws, decodeFields dec fs (pre ++ k) = some ws ∧ encodeFields enc fs ws = some k := by
  fun_induction encodeFields enc fs vs generalizing k with
  | case1 => rintro pre - - - ⟨⟩; exact ⟨[], rfl, rfl⟩
  | case2 hd t fs v vs hskip ih =>
    -- a skipped field: no key of `pre ++ k` is one of its names, so it reads back as `None`
    intro pre ⟨hn1, hn2, hn3⟩ hpre hrt h
    rw [Bool.and_eq_true] at hskip
    obtain ⟨ws, hw1, hw2⟩ := ih pre hn3 (fun kv hkv f hf => hpre kv hkv f (.tail _ hf))
      (fun f hf => hrt f (.tail _ hf)) h
    have hlk : lookup hd.deNames (pre ++ k) = none := by
      rw [lookup_append_of_not_mem _ _ _ fun kv hkv => hpre kv hkv _ List.mem_cons_self]
      refine lookup_none_of_keys _ _ fun kv hkv => ?_
      obtain ⟨f, hf, e⟩ := encodeFields_keys h kv hkv
      exact e ▸ (hn1 f hf).1
    obtain ⟨hto, hdf⟩ := hn2 hskip.1
    exact ⟨.nul :: ws, by simp only [decodeFields, decodeField, hlk, hdf, hto, hw1, if_true],
      by simp only [encodeFields, hskip.1, Val.isNone, Bool.and_self, if_true, hw2]⟩
  | case3 hd t fs v vs hns j r hr hj ih =>
    -- a written field: found under its own name behind `pre`; the rest is read behind `pre ++ [it]`
    rintro pre ⟨hn1, hn2, hn3⟩ hpre hrt ⟨⟩
    obtain ⟨⟨w, hw1, hw2⟩, hsk⟩ := (hrt (hd, t) List.mem_cons_self).imp_left (· v j hj)
    obtain ⟨ws, hws1, hws2⟩ := ih (pre ++ [(hd.ser, j)]) hn3
      (fun kv hkv f hf => (List.mem_append.1 hkv).elim (hpre kv · f (.tail _ hf))
        fun hkv => List.mem_singleton.1 hkv ▸ (hn1 f hf).2)
      (fun f hf => hrt f (.tail _ hf)) hr
    have hlk : lookup hd.deNames (pre ++ (hd.ser, j) :: r) = some j := by
      rw [lookup_append_of_not_mem _ _ _ fun kv hkv => hpre kv hkv _ List.mem_cons_self]
      exact lookup_hit _ _ _ _ List.mem_cons_self
    rw [List.append_assoc, List.singleton_append] at hws1
    have hnot : (hd.skipNone && w.isNone) = false := Bool.eq_false_iff.2 fun h => by
      -- `w` is `None` only if `j` is `null`, only if `v` is `None`: but then the field is skipped
      obtain ⟨hs, hwn⟩ := Bool.and_eq_true_iff.1 h
      obtain ⟨sa, sb⟩ := hsk hs
      exact sa v j hj (by simpa [hs] using hns) (sb j w hw1 hwn)
    exact ⟨w :: ws, by simp only [decodeFields, decodeField, hlk, hw1, hws1],
      by simp only [encodeFields, hnot, hw2, hws2, Bool.false_eq_true, if_false]⟩
  | case4 => rintro _ - - - ⟨⟩
  | case5 => rintro _ - - - ⟨⟩

/-- what `safeB` decides: whatever encoding of `s` the decoder of `t` accepts, it re-encodes to the same
    JSON (one fuel: the variants of an `untagged` enum are tried at one depth) -/
def Safe (env : Env) (s t : Ty) : Prop :=
  ∀ n v j w, encode env n s v = some j → decode env n t j = some w → encode env n t w = some j

/-- no value of `t` is written as `null`: a present `Option<t>` field can be told from `None` -/
def NeverNull (env : Env) (t : Ty) : Prop := ∀ n v j, encode env n t v = some j → j ≠ .null

def FieldsWF (env : Env) (P : Ty → Prop) (fs : Fields) : Prop :=
  NamesOK fs ∧ ∀ f ∈ fs, P f.2 ∧ (f.1.skipNone = true → ∃ t', f.2 = .opt t' ∧ NeverNull env t')

/-- what `tyWFB` decides, without fuel; a `ref` carries no premise: `EnvWF` speaks for every definition -/
inductive TyWF (env : Env) : Ty → Prop
  | prim (p) : TyWF env (.prim p)
  | opt {t} : TyWF env t → TyWF env (.opt t)
  | vec {t} : TyWF env t → TyWF env (.vec t)
  | struct {fs} : NamesOK fs →
      (∀ f ∈ fs, TyWF env f.2) →
      (∀ f ∈ fs, f.1.skipNone = true → ∃ t', f.2 = .opt t' ∧ NeverNull env t') →
      TyWF env (.struct fs)
  | tagged {tag vars} :
      (∀ v ∈ vars, ∀ f ∈ v.2, TyWF env f.2) →
      (∀ v ∈ vars, NamesOK v.2 ∧ ∀ f ∈ v.2, tag ∉ f.1.deNames ∧
          (f.1.skipNone = true → ∃ t', f.2 = .opt t' ∧ NeverNull env t')) →
      (vars.map (·.1)).Nodup → TyWF env (.tagged tag vars)
  | units {names} : names.Nodup → TyWF env (.units names)
  | untagged {ts} : (∀ t ∈ ts, TyWF env t) →
      (∀ (i k : Nat) s t, i < k → ts[i]? = some t → ts[k]? = some s → Safe env s t) →
      TyWF env (.untagged ts)
  | ref (name) : TyWF env (.ref name)

def EnvWF (env : Env) : Prop := ∀ name t, env name = some t → TyWF env t

theorem decode_opt_of_ne_null {env n t j} (hj : j ≠ .null) :
    decode env (n+1) (.opt t) j = (decode env n t j).map .just := by
  cases j <;> first | rfl | exact absurd rfl hj

theorem skipOK_of_neverNull {env n t} (h : ∃ t', t = .opt t' ∧ NeverNull env t') :
    SkipOK (encode env n) (decode env n) t := by
  obtain ⟨t', rfl, h⟩ := h
  cases n with
  | zero => exact ⟨nofun, nofun⟩
  | succ m =>
    refine ⟨fun v j he hv => ?_, fun j w hd hw => ?_⟩
    · cases v
      case nul => cases hv
      case just v' => exact h m v' j he
      all_goals cases he
    · cases j
      case null => rfl
      all_goals obtain ⟨a, _, rfl⟩ := Option.map_eq_some_iff.1 hd; cases hw

theorem decPrim_encPrim {p v j} : encPrim p v = some j → decPrim p j = some v := by
  fun_cases encPrim p v <;> rintro ⟨⟩ <;> simp only [decPrim, *, if_true]

theorem findIdx_spec (name : String) (fs : Fields) : ∀ (vars : List (String × Fields)) (i base : Nat),
    (vars.map (·.1)).Nodup → vars[i]? = some (name, fs) → findIdx name vars base = some (base + i, fs) := by
  intro vars
  induction vars with
  | nil => nofun
  | cons a vars ih =>
    intro i base hnd h
    obtain ⟨nm, gs⟩ := a
    obtain ⟨hnm, hnd⟩ := List.nodup_cons.1 hnd
    cases i with
    | zero => cases h; simp only [findIdx, if_true, Nat.add_zero]
    | succ i =>
      replace h : vars[i]? = some (name, fs) := h
      have hne : nm ≠ name := fun e =>
        hnm (e ▸ List.mem_map_of_mem (f := (·.1)) (a := (name, fs)) (List.mem_of_getElem? h))
      rw [findIdx, if_neg hne, ih i (base+1) hnd h, Nat.add_right_comm, Nat.add_assoc]

theorem firstO_le (f : Ty → Option Val) : ∀ (ts : List Ty) (i base : Nat) t w0,
    ts[i]? = some t → f t = some w0 →
    ∃ k t' w, k ≤ i ∧ ts[k]? = some t' ∧ f t' = some w ∧ firstO f ts base = some (.variant (base + k) w) := by
  intro ts
  induction ts with
  | nil => nofun
  | cons a ts ih =>
    intro i base t w0 h hf
    cases hfa : f a with
    | some w => exact ⟨0, a, w, i.zero_le, rfl, hfa, by simp only [firstO, hfa, Nat.add_zero]⟩
    | none =>
      cases i with
      | zero => cases h; rw [hfa] at hf; cases hf
      | succ i =>
        obtain ⟨k, t', w, hk, hk2, hk3, hk4⟩ := ih i (base+1) t w0 h hf
        exact ⟨k+1, t', w, Nat.succ_le_succ hk, hk2, hk3, by
          simp only [firstO, hfa, hk4, Nat.add_right_comm, Nat.add_assoc]⟩

theorem rt {env : Env} (hE : EnvWF env) {n t} (ht : TyWF env t) : RT (encode env n) (decode env n) t := by
  intro v j
  -- strong induction only so that the fuel stays a variable for `fun_cases`; `ih` is used at the predecessor
  induction n using Nat.strongRecOn generalizing t v j with | _ n ih => ?_
  fun_cases encode env n t v
  case case2 => exact fun h => ⟨v, decPrim_encPrim h, h⟩  -- `prim`
  case case3 => rintro ⟨⟩; exact ⟨.nul, rfl, rfl⟩  -- `opt`, `None`
  case case4 n t v =>  -- `opt`, `Some`
    intro h
    cases ht with | opt ht =>
    obtain ⟨w, h1, h2⟩ := ih n n.lt_succ_self ht _ _ h
    by_cases hj : j = .null
    · subst hj; exact ⟨.nul, rfl, rfl⟩
    · exact ⟨.just w, by rw [decode_opt_of_ne_null hj, h1]; rfl, h2⟩
  case case5 n t vs =>  -- `vec`
    intro h
    cases ht with | vec ht =>
    obtain ⟨js, hjs, rfl⟩ := Option.map_eq_some_iff.1 h
    obtain ⟨ws, h1, h2⟩ := mapO_rt (ih n n.lt_succ_self ht) vs js hjs
    exact ⟨.list ws, by simp only [decode, h1, Option.map_some], by simp only [encode, h2, Option.map_some]⟩
  case case6 n fs vs =>  -- `struct`
    intro h
    cases ht with | struct hn hf0 hf1 =>
    obtain ⟨k, hk, rfl⟩ := Option.map_eq_some_iff.1 h
    obtain ⟨ws, h1, h2⟩ := fields_rt (dec := decode env n) [] hn (fun _ h => (List.not_mem_nil h).elim)
      (fun f hf => ⟨ih n n.lt_succ_self (hf0 f hf), fun hs => skipOK_of_neverNull (hf1 f hf hs)⟩) hk
    exact ⟨.record ws, by simp only [decode]; rw [← k.nil_append, h1]; rfl,
      by simp only [encode, h2, Option.map_some]⟩
  case case7 n tag vars i vs name fs hi =>  -- `tagged`
    intro h
    cases ht with | tagged hv0 hv1 hnd =>
    obtain ⟨k, hk, rfl⟩ := Option.map_eq_some_iff.1 h
    have hmem : (name, fs) ∈ vars := List.mem_of_getElem? hi
    obtain ⟨hn, hf⟩ := hv1 _ hmem
    -- the tag goes in front: it is none of the fields' names, so the fields are read behind it
    obtain ⟨ws, h1, h2⟩ := fields_rt (dec := decode env n) [(tag, .str name)] hn
      (fun kv hkv f hfm => List.mem_singleton.1 hkv ▸ (hf f hfm).1)
      (fun f hfm => ⟨ih n n.lt_succ_self (hv0 _ hmem f hfm),
        fun hs => skipOK_of_neverNull ((hf f hfm).2 hs)⟩) hk
    have hfi := findIdx_spec name fs vars i 0 hnd hi
    rw [Nat.zero_add] at hfi
    exact ⟨.variant i (.record ws),
      by simp only [decode, lookup_hit _ _ _ _ List.mem_cons_self, hfi]; rw [← List.singleton_append, h1]; rfl,
      by simp only [encode, hi, h2, Option.map_some]⟩
  case case9 n names i =>  -- `units`
    intro h
    cases ht with | units hnd =>
    obtain ⟨a, ha, rfl⟩ := Option.map_eq_some_iff.1 h
    obtain ⟨hlt, rfl⟩ := List.getElem?_eq_some_iff.1 ha
    exact ⟨.variant i .unit, by simp only [decode, hnd.idxOf_getElem i hlt, hlt, if_true],
      by simp only [encode, ha, Option.map_some]⟩
  case case10 n ts i v t hi =>  -- `untagged`
    intro h
    cases ht with | untagged hts hsafe =>
    obtain ⟨w0, hw0, hw0'⟩ := ih n n.lt_succ_self (hts t (List.mem_of_getElem? hi)) _ _ h
    -- some variant `k ≤ i` accepts `j`: variant `i` itself round-trips, an earlier one is `Safe`
    obtain ⟨k, t', w, hk, hk2, hk3, hk4⟩ := firstO_le (fun t => decode env n t j) ts i 0 t w0 hi hw0
    rw [Nat.zero_add] at hk4
    refine ⟨.variant k w, hk4, ?_⟩
    simp only [encode, hk2]
    rcases Nat.lt_or_eq_of_le hk with hlt | rfl
    · exact hsafe k i t t' hlt hk2 hi n v j w h hk3
    · cases hk2.symm.trans hi
      cases hk3.symm.trans hw0
      exact hw0'
  case case12 n name t hn =>  -- `ref`
    intro h
    obtain ⟨w, h1, h2⟩ := ih n n.lt_succ_self (hE _ _ hn) _ _ h
    exact ⟨w, by simp only [decode, hn, h1], by simp only [encode, hn, h2]⟩
  all_goals nofun  -- the cases where `encode` fails
end C11
