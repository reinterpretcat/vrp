import VrpProofs.C11.Safe
namespace C11

theorem encPrim_ne_null {p v j} : encPrim p v = some j → j ≠ .null := by
  fun_cases encPrim p v <;> rintro ⟨⟩ <;> exact Json.noConfusion

theorem neverNull_sound {env : Env} {fuel t} : neverNullB env fuel t = true → NeverNull env t := by
  intro h n v j
  fun_induction encode env n t v generalizing fuel j with
  | case2 n p v => exact encPrim_ne_null
  | case3 | case4 => cases fuel <;> cases h  -- `Option`: refused by `neverNullB`
  | case5 | case6 | case7 | case9 =>  -- `vec`, `struct`, `tagged`, `units` write an array, object or string
    intro he; obtain ⟨_, _, rfl⟩ := Option.map_eq_some_iff.1 he; exact Json.noConfusion
  | case10 n ts i v t hi ih =>
    cases fuel with
    | zero => cases h
    | succ fuel => exact ih (List.all_eq_true.1 h t (List.mem_of_getElem? hi)) j
  | case12 n a v t ha ih =>
    cases fuel with
    | zero => cases h
    | succ fuel => simp only [neverNullB, ha] at h; exact ih h j
  | _ => nofun

theorem skipOKB_sound {env n f} (h : skipOKB env n f = true) :
    f.1.skipNone = true → ∃ t', f.2 = .opt t' ∧ NeverNull env t' := by
  intro hs
  simp only [skipOKB, hs, Bool.not_true, Bool.false_or] at h
  split at h
  · rename_i t' e; exact ⟨t', e, neverNull_sound h⟩
  · cases h

theorem pairwiseSafeB_sound {env n} : ∀ ts, pairwiseSafeB env n ts = true →
    ∀ (i k : Nat) s t, i < k → ts[i]? = some t → ts[k]? = some s → Safe env s t := by
  intro ts
  induction ts with
  | nil => nofun
  | cons a ts ih =>
    intro h i k s t hik hi hk
    simp only [pairwiseSafeB, Bool.and_eq_true, List.all_eq_true] at h
    cases k with
    | zero => cases hik
    | succ k =>
      cases i with
      | zero => cases hi; exact safe_sound _ _ _ (h.1 s (List.mem_of_getElem? hk))
      | succ i => exact ih h.2 i k s t (Nat.lt_of_succ_lt_succ hik) hi hk

theorem tyWFB_sound {env : Env} : ∀ fuel t, tyWFB env fuel t = true → TyWF env t := by
  intro fuel
  induction fuel with
  | zero => nofun
  | succ n ih =>
    intro t h
    cases t with
    | prim p => exact .prim p
    | opt t => exact .opt (ih t h)
    | vec t => exact .vec (ih t h)
    | struct fs =>
      simp only [tyWFB, Bool.and_eq_true, List.all_eq_true] at h
      exact .struct (namesOKB_sound fs h.1) (fun f hf => ih _ (h.2 f hf).1)
        (fun f hf => skipOKB_sound (h.2 f hf).2)
    | tagged tag vars =>
      simp only [tyWFB, Bool.and_eq_true, List.all_eq_true, decide_eq_true_eq, Bool.not_eq_true',
        List.contains_eq_mem, decide_eq_false_iff_not] at h
      exact .tagged (fun v hv f hf => ih _ ((h.1 v hv).2 f hf).1.2)
        (fun v hv => ⟨namesOKB_sound _ (h.1 v hv).1, fun f hf =>
          ⟨((h.1 v hv).2 f hf).1.1, skipOKB_sound ((h.1 v hv).2 f hf).2⟩⟩) h.2
    | units names => exact .units (of_decide_eq_true h)
    | untagged ts =>
      simp only [tyWFB, Bool.and_eq_true, List.all_eq_true] at h
      exact .untagged (fun t ht => ih t (h.1 t ht)) (pairwiseSafeB_sound ts h.2)
    | ref a => exact .ref a

theorem envWFB_sound (defs fuel) (h : envWFB defs fuel = true) : EnvWF (envOf defs) := by
  intro name t hn
  obtain ⟨d, hd, rfl⟩ := Option.map_eq_some_iff.1 hn
  exact tyWFB_sound _ _ (List.all_eq_true.1 h d (List.mem_of_find?_eq_some hd))

/-- End-to-end: for a schema that passes the Boolean check, every document that serialises
    is accepted by the parser and re-serialises to the same JSON. -/
theorem roundtrip (defs : List (String × Ty)) (fuel : Nat) (h : envWFB defs fuel = true)
    (root : String) (n : Nat) (v : Val) (j : Json)
    (he : encode (envOf defs) n (.ref root) v = some j) :
    ∃ w, decode (envOf defs) n (.ref root) j = some w ∧ encode (envOf defs) n (.ref root) w = some j :=
  rt (envWFB_sound defs fuel h) (.ref root) v j he

end C11
