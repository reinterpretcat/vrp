import VrpModel.C03U
/-!
# C03 / C02 — the list of unassigned jobs the writer renders (`create_unassigned`)

The reason table is regenerated from the source on every check. What is evaluated on it (codes and reasons pairwise distinct,
the reader's table the writer's read backwards, the default reason no row) is therefore re-proved whenever the source changes;
the round trips follow from these facts.
-/
namespace C03U
open C03.Reasons

/- `decide` evaluates twice, in the elaborator and in the kernel, and comparing string literals is dear: the kernel alone -/
theorem codes_distinct : (codeReason.map (·.1)).Nodup := by decide +kernel

theorem reasons_distinct : (codeReason.map (·.2.1)).Nodup := by decide +kernel

theorem default_is_no_code : codeOf defaultReason.1 = none := by decide +kernel

/-- `map_reason_code` lists the rows of `map_code_reason` read backwards -/
theorem reasonCode_eq : reasonCode = codeReason.map (fun x => (x.2.1, x.1)) := rfl

theorem find?_key_of_nodup {α β : Type} [BEq α] [LawfulBEq α] (l : List (α × β)) (h : (l.map (·.1)).Nodup)
    (x : α × β) (hx : x ∈ l) : l.find? (fun y => y.1 == x.1) = some x := by
  induction l with
  | nil => cases hx
  | cons y r ih =>
    rw [List.map_cons, List.nodup_cons] at h
    rcases List.mem_cons.mp hx with rfl | hr
    · exact List.find?_cons_of_pos (beq_self_eq_true _)
    · have hne : (y.1 == x.1) = false :=
        beq_false_of_ne fun e => h.1 (e ▸ List.mem_map_of_mem hr)
      rw [List.find?_cons_of_neg (by rw [hne]; exact Bool.false_ne_true)]
      exact ih h.2 hr

theorem reason_roundtrip : ∀ x ∈ codeReason, codeOf x.2.1 = some x.1 := by
  intro x hx
  have hm : (x.2.1, x.1) ∈ reasonCode := List.mem_map_of_mem (f := fun x => (x.2.1, x.1)) hx
  have hn : (reasonCode.map (·.1)).Nodup := by
    rw [reasonCode_eq, List.map_map]; exact reasons_distinct
  unfold codeOf
  rw [find?_key_of_nodup reasonCode hn _ hm]
  rfl

theorem code_roundtrip : ∀ x ∈ reasonCode, (reasonOf x.2).1 = x.1 := by
  intro x hx
  obtain ⟨y, hy, rfl⟩ := List.mem_map.mp (reasonCode_eq ▸ hx)
  unfold reasonOf
  rw [find?_key_of_nodup codeReason codes_distinct y hy]

theorem createUnassigned_ids (us : List UJob) :
    (createUnassigned us).map (·.jobId) = (us.filter (fun u => u.vehicleId.isNone)).map (·.jobId) := by
  simp [createUnassigned, List.map_map, Function.comp_def]

theorem insertSorted_perm {α : Type} (le : α → α → Bool) (x : α) (l : List α) : (insertSorted le x l).Perm (x :: l) := by
  induction l with
  | nil => exact .refl _
  | cons y r ih =>
    unfold insertSorted
    split
    · exact .refl _
    · exact (ih.cons y).trans (.swap x y r)

theorem sortBy_perm {α : Type} (le : α → α → Bool) (l : List α) : (sortBy le l).Perm l := by
  induction l with
  | nil => exact .refl _
  | cons x r ih => exact (insertSorted_perm le x (sortBy le r)).trans (ih.cons x)

theorem sortBy_length {α : Type} (le : α → α → Bool) (l : List α) : (sortBy le l).length = l.length :=
  (sortBy_perm le l).length_eq

theorem reasonsOf_nonempty (i : UInfo) : reasonsOf i ≠ [] := by
  cases i with
  | unknown => exact List.cons_ne_nil _ _
  | simple c => exact List.cons_ne_nil _ _
  | detailed l =>
    cases l with
    | nil => exact List.cons_ne_nil _ _
    | cons a r =>
      -- as many reasons as distinct codes, and the code of `a` is one
      intro h
      have hl := congrArg List.length h
      simp only [reasonsOf, List.isEmpty_cons, Bool.false_eq_true, if_false, detailedReasons, sortBy_length, List.length_map,
        codesOf, List.map_cons, List.eraseDups_cons, List.length_cons, List.length_nil] at hl
      exact Nat.succ_ne_zero _ hl

theorem sum_groups (ks : List Nat) : ((ks.eraseDups).map (fun c => ks.count c)).sum = ks.length := by
  generalize hn : ks.length = n
  induction n using Nat.strongRecOn generalizing ks with
  | ind n ih =>
    cases ks with
    | nil => exact hn
    | cons a r =>
      have hlen : r.length = r.count a + (r.filter (fun b => !b == a)).length := by
        rw [List.length_eq_countP_add_countP (· == a), ← List.countP_eq_length_filter]
        congr 1
        exact List.countP_congr fun b _ => by simp
      -- the groups of the other keys do not see `a`
      have hrest : ((r.filter (fun b => !b == a)).eraseDups).map (fun c => (a :: r).count c)
          = ((r.filter (fun b => !b == a)).eraseDups).map (fun c => (r.filter (fun b => !b == a)).count c) := by
        apply List.map_congr_left
        intro c hc
        have hca : (!c == a) = true := (List.mem_filter.mp (List.mem_eraseDups.mp hc)).2
        rw [List.count_filter (p := fun b => !b == a) hca, List.count_cons_of_ne (fun e => by simp [e] at hca)]
      have hlt : (r.filter (fun b => !b == a)).length < n :=
        hn ▸ Nat.lt_succ_of_le (List.length_filter_le _ r)
      rw [List.eraseDups_cons, List.map_cons, List.sum_cons, hrest, ih _ hlt _ rfl, List.count_cons_self, ← hn,
        List.length_cons]
      omega

/-- **no vehicle shift is lost or duplicated by the grouping**: the details of all reasons of a job together are exactly the
    (vehicle shift, code) pairs the solver recorded -/
theorem detailedReasons_cover (l : List (String × Nat × Nat)) :
    ((detailedReasons l).map (fun r => (r.details.getD []).length)).sum = l.length := by
  unfold detailedReasons
  rw [((sortBy_perm _ _).map _).sum_nat, List.map_map, ← List.length_map (f := (·.2.2)) (as := l), ← sum_groups, codesOf]
  congr 1
  apply List.map_congr_left
  intro c _
  simp only [Function.comp, Option.getD_some, sortBy_length, List.length_map, List.count, List.countP_map,
    ← List.countP_eq_length_filter]
  rfl

/-- non-vacuity: two vehicles refuse a job for capacity, one for its time window -/
example : reasonsOf (.detailed [("v2", 0, 4), ("v1", 1, 1), ("v1", 0, 4)])
    = [{ code := "CAPACITY_CONSTRAINT", description := "does not fit into any vehicle due to capacity", details := some [("v1", 0), ("v2", 0)] },
       { code := "TIME_WINDOW_CONSTRAINT", description := "cannot be visited within time window", details := some [("v1", 1)] }] := by rfl

end C03U
