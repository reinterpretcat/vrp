/-!
# C05 — one pass over the features recomputes every cached value, provided the features are ordered by dependency

`accept_solution_state` (and `accept_route_state`) of the goal runs the state update of every feature once, in the order the
features were given (`feature_combinator.rs`). A feature reads cached values other features wrote (work balance reads the
maximum load written by capacity and the tour duration written by transport; compactness, groups, … likewise). The hand-over
property C05 - "cached = recomputed from the bare tours" - therefore needs an ORDER condition, which is what two genuine
defects were about (S40: a feature read a value that was refreshed only later; S41: balance features listed before transport).

Abstract model: a store `Nat → Int`; keys below `base` are the bare tour data (never written); a feature writes ONE key from
the values of the keys it reads. Recomputation is the pass from cleared caches, so "the pass does not depend on the cached
values before it" is "one pass = recomputation".
-/
namespace C05Order

abbrev Store := Nat → Int

structure Feature where
  reads : List Nat
  writes : Nat
  f : Store → Int

def DependsOnly (ft : Feature) : Prop := ∀ g h : Store, (∀ k ∈ ft.reads, g k = h k) → ft.f g = ft.f h

def upd (s : Store) (k : Nat) (v : Int) : Store := fun k' => if k' = k then v else s k'

def apply (s : Store) (ft : Feature) : Store := upd s ft.writes (ft.f s)

/-- one pass of `accept_solution_state`: every feature once, in list order -/
def pass (fs : List Feature) (s : Store) : Store := fs.foldl apply s

/-- dependency order: a feature reads bare data (`k < base`) or keys written by features BEFORE it; nothing writes bare data -/
def Ordered (base : Nat) : List Nat → List Feature → Prop
  | _, [] => True
  | done, ft :: rest => (∀ k ∈ ft.reads, k < base ∨ k ∈ done) ∧ base ≤ ft.writes ∧ Ordered base (ft.writes :: done) rest

theorem upd_same (s : Store) (k : Nat) (v : Int) : upd s k v k = v := by simp [upd]
theorem upd_other (s : Store) (k k' : Nat) (v : Int) (h : k' ≠ k) : upd s k v k' = s k' := by simp [upd, h]

theorem pass_agree (base : Nat) (fs : List Feature) (done : List Nat) (s1 s2 : Store)
    (hdep : ∀ ft ∈ fs, DependsOnly ft) (hord : Ordered base done fs)
    (hagree : ∀ k, k < base ∨ k ∈ done → s1 k = s2 k) :
    ∀ k, (k < base ∨ k ∈ done ∨ k ∈ fs.map (·.writes)) → pass fs s1 k = pass fs s2 k := by
  induction fs generalizing done s1 s2 with
  | nil =>
    intro k hk
    simp only [pass, List.foldl_nil, List.map_nil, List.not_mem_nil, or_false] at hk ⊢
    exact hagree k hk
  | cons ft rest ih =>
    obtain ⟨hreads, -, hrest⟩ := hord
    have hval : ft.f s1 = ft.f s2 := hdep ft List.mem_cons_self s1 s2 fun r hr => hagree r (hreads r hr)
    intro k hk
    refine ih (ft.writes :: done) (apply s1 ft) (apply s2 ft) (fun g hg => hdep g (List.mem_cons_of_mem _ hg)) hrest
      (fun j hj => ?_) k ?_
    · by_cases hjw : j = ft.writes
      · rw [hjw, apply, apply, upd_same, upd_same, hval]
      · rw [apply, apply, upd_other _ _ _ _ hjw, upd_other _ _ _ _ hjw]
        exact hagree j (hj.imp_right fun h => (List.mem_cons.mp h).resolve_left hjw)
    · rw [List.map_cons, List.mem_cons] at hk
      rcases hk with hk | hk | hk | hk
      · exact .inl hk
      · exact .inr (.inl (List.mem_cons_of_mem _ hk))
      · exact .inr (.inl (hk ▸ List.mem_cons_self))
      · exact .inr (.inr hk)

theorem pass_independent_of_stale (base : Nat) (fs : List Feature) (s1 s2 : Store)
    (hdep : ∀ ft ∈ fs, DependsOnly ft) (hord : Ordered base [] fs)
    (hbare : ∀ k, k < base → s1 k = s2 k) :
    ∀ k, (k < base ∨ k ∈ fs.map (·.writes)) → pass fs s1 k = pass fs s2 k :=
  fun k hk => pass_agree base fs [] s1 s2 hdep hord (fun k hk => hk.elim (hbare k) (nomatch ·)) k (hk.imp_right .inr)

theorem pass_idempotent (base : Nat) (fs : List Feature) (s : Store)
    (hdep : ∀ ft ∈ fs, DependsOnly ft) (hord : Ordered base [] fs)
    (hbase : ∀ k, k < base → pass fs s k = s k) :
    ∀ k, (k < base ∨ k ∈ fs.map (·.writes)) → pass fs (pass fs s) k = pass fs s k :=
  pass_independent_of_stale base fs (pass fs s) s hdep hord hbase

/-! ## the S41 shape: a reader listed before the writer it depends on -/

/-- key 0: bare tour data; key 1: total duration (written by "transport" from key 0); key 2: balance (written by
    "work balance" from key 1) -/
def transportF : Feature := { reads := [0], writes := 1, f := fun s => 2 * s 0 }
def balanceF : Feature := { reads := [1], writes := 2, f := fun s => s 1 + 7 }

theorem transport_dep : DependsOnly transportF :=
  fun _ _ hk => congrArg (2 * ·) (hk 0 List.mem_cons_self)
theorem balance_dep : DependsOnly balanceF :=
  fun _ _ hk => congrArg (· + 7) (hk 1 List.mem_cons_self)

example : Ordered 1 [] [transportF, balanceF] := by
  simp [Ordered, transportF, balanceF]

def fresh : Store := fun k => if k = 0 then 5 else 0
def stale : Store := fun k => if k = 0 then 5 else 100

example : pass [transportF, balanceF] fresh 2 = 17 ∧ pass [transportF, balanceF] stale 2 = 17 := by decide

/-- balance before transport, the order /repo had before repair S41: the result depends on the stale value -/
theorem wrong_order_depends_on_stale :
    pass [balanceF, transportF] fresh 2 ≠ pass [balanceF, transportF] stale 2 ∧ ¬ Ordered 1 [] [balanceF, transportF] :=
  ⟨by decide, fun h => (h.1 1 List.mem_cons_self).elim (by decide) (nomatch ·)⟩

end C05Order
