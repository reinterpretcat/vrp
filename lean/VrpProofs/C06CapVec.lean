import VrpProofs.C06
import VrpProofs.C06Cap
/-!
# C06 — capacity half, any number of dimensions

The executable model (`C06.hasDemandViolation`, `Route.loadProfile`, `runMax`, `maxFuture`) works on vectors with
component-wise operations (`SingleDimLoad` / `MultiDimLoad` in load.rs); every component of it (`pr k`) is the
one-dimensional model of `C06Cap`.

Well-formedness (`WF n`): all vectors of one case have the same length `n` (the harness pads with zeros;
`MultiDimLoad` has a fixed size).
-/

namespace C06Cap
open Route

def pr (k : Nat) (v : List Int) : Int := v.getD k 0

def prD (k : Nat) (d : Dem) : Dem1 := ⟨pr k d.sp, pr k d.dp, pr k d.sd, pr k d.dd⟩

def WF (n : Nat) (d : Dem) : Prop := d.sp.length = n ∧ d.dp.length = n ∧ d.sd.length = n ∧ d.dd.length = n

theorem demWF_iff (n : Nat) (d : Dem) : C06.demWF n d = true ↔ WF n d := by
  simp only [C06.demWF, WF, Bool.and_eq_true, beq_iff_eq, and_assoc]

theorem pr_zipWith (f : Int → Int → Int) (a b : List Int) (k : Nat) (ha : k < a.length) (hb : k < b.length) :
    pr k (List.zipWith f a b) = f (pr k a) (pr k b) := by
  unfold pr
  simp [List.getD_eq_getElem?_getD, List.getElem?_zipWith, List.getElem?_eq_getElem ha, List.getElem?_eq_getElem hb]

theorem vadd_length (a b : List Int) (n : Nat) (ha : a.length = n) (hb : b.length = n) : (vadd a b).length = n := by
  simp [vadd, ha, hb]
theorem vsub_length (a b : List Int) (n : Nat) (ha : a.length = n) (hb : b.length = n) : (vsub a b).length = n := by
  simp [vsub, ha, hb]
theorem vmax_length (a b : List Int) (n : Nat) (ha : a.length = n) (hb : b.length = n) : (vmax a b).length = n := by
  simp [vmax, ha, hb]

theorem pr_vadd (a b : List Int) (n k : Nat) (ha : a.length = n) (hb : b.length = n) (hk : k < n) :
    pr k (vadd a b) = pr k a + pr k b := pr_zipWith _ a b k (ha ▸ hk) (hb ▸ hk)
theorem pr_vsub (a b : List Int) (n k : Nat) (ha : a.length = n) (hb : b.length = n) (hk : k < n) :
    pr k (vsub a b) = pr k a - pr k b := pr_zipWith _ a b k (ha ▸ hk) (hb ▸ hk)
theorem pr_vmax (a b : List Int) (n k : Nat) (ha : a.length = n) (hb : b.length = n) (hk : k < n) :
    pr k (vmax a b) = max (pr k a) (pr k b) := pr_zipWith _ a b k (ha ▸ hk) (hb ▸ hk)

theorem change_length (n : Nat) (d : Dem) (h : WF n d) : d.change.length = n := by
  obtain ⟨h1, h2, h3, h4⟩ := h
  exact vsub_length _ _ n (vadd_length _ _ n h1 h2) (vadd_length _ _ n h3 h4)

theorem pr_change (n k : Nat) (d : Dem) (h : WF n d) (hk : k < n) : pr k d.change = (prD k d).change := by
  obtain ⟨h1, h2, h3, h4⟩ := h
  unfold Dem.change
  rw [pr_vsub _ _ n k (vadd_length _ _ n h1 h2) (vadd_length _ _ n h3 h4) hk,
      pr_vadd _ _ n k h1 h2 hk, pr_vadd _ _ n k h3 h4 hk]
  exact (Int.sub_sub ..).symm

/-- `can_fit` is the conjunction over the components -/
theorem vfits_iff (cap v : List Int) (n : Nat) (hc : cap.length = n) (hv : v.length = n) :
    vfits cap v = true ↔ ∀ k, k < n → pr k v ≤ pr k cap := by
  induction cap generalizing v n with
  | nil =>
    subst hc
    exact ⟨fun _ k hk => absurd hk (Nat.not_lt_zero k), fun _ => rfl⟩
  | cons c cs ih =>
    cases v with
    | nil => exact absurd (hc.trans hv.symm) (Nat.succ_ne_zero _)
    | cons x xs =>
      subst hc
      have ih' : vfits cs xs = true ↔ _ := ih xs cs.length rfl (Nat.succ.inj hv)
      rw [vfits, List.zipWith_cons_cons, List.all_cons, Bool.and_eq_true, id, decide_eq_true_eq]
      refine ⟨fun h k hk => ?_, fun h => ⟨h 0 (Nat.zero_lt_succ _), ih'.mpr fun k hk => h (k + 1) (Nat.succ_lt_succ hk)⟩⟩
      cases k with
      | zero => exact h.1
      | succ k => exact ih'.mp h.2 k (Nat.lt_of_succ_lt_succ hk)

theorem vfits_vadd_iff (cap a b : List Int) (n : Nat) (hc : cap.length = n) (ha : a.length = n) (hb : b.length = n) :
    vfits cap (vadd a b) = true ↔ ∀ k, k < n → pr k a + pr k b ≤ pr k cap := by
  rw [vfits_iff cap _ n hc (vadd_length a b n ha hb)]
  exact forall₂_congr fun k hk => by rw [pr_vadd a b n k ha hb hk]

theorem vNotEmpty_false (v : List Int) (h : vNotEmpty v = false) (k : Nat) : pr k v = 0 :=
  (C06.getD_eq_or_mem v k 0).elim id fun hm =>
    bne_eq_false_iff_eq.mp (Bool.eq_false_iff.mpr (List.any_eq_false.mp h _ hm))

theorem foldl_sd_length (n : Nat) : ∀ (ds : List Dem) (acc : List Int), acc.length = n → (∀ d ∈ ds, WF n d) →
    (ds.foldl (fun acc x => vadd acc x.sd) acc).length = n := by
  intro ds
  induction ds with
  | nil => intro acc h _; simpa using h
  | cons d ds ih =>
    intro acc h hw
    simp only [List.foldl_cons]
    exact ih _ (vadd_length _ _ n h (hw d (by simp)).2.2.1) (fun e he => hw e (by simp [he]))

theorem pr_foldl_sd (n k : Nat) (hk : k < n) : ∀ (ds : List Dem) (acc : List Int), acc.length = n → (∀ d ∈ ds, WF n d) →
    pr k (ds.foldl (fun acc x => vadd acc x.sd) acc) = pr k acc + ((ds.map (prD k)).map (·.sd)).sum := by
  intro ds
  induction ds with
  | nil => intro acc _ _; simp
  | cons d ds ih =>
    intro acc h hw
    simp only [List.foldl_cons, List.map_cons, List.sum_cons]
    rw [ih _ (vadd_length _ _ n h (hw d (by simp)).2.2.1) (fun e he => hw e (by simp [he])),
        pr_vadd _ _ n k h (hw d (by simp)).2.2.1 hk]
    exact Int.add_assoc ..

theorem zero_length (cap : List Int) : (cap.map (fun _ => (0 : Int))).length = cap.length := by simp
theorem pr_zero (cap : List Int) (k : Nat) : pr k (cap.map (fun _ => (0 : Int))) = 0 :=
  (C06.getD_eq_or_mem _ k 0).elim id fun hm => by
    obtain ⟨_, _, e⟩ := List.mem_map.mp hm
    exact e.symm

theorem startLoad_length (n : Nat) (zero : List Int) (ds : List Dem) (hz : zero.length = n) (hw : ∀ d ∈ ds, WF n d) :
    (startLoad zero ds).length = n := foldl_sd_length n ds zero hz hw

theorem pr_startLoad (n k : Nat) (hk : k < n) (cap : List Int) (hc : cap.length = n) (ds : List Dem)
    (hw : ∀ d ∈ ds, WF n d) :
    pr k (startLoad (cap.map (fun _ => 0)) ds) = startLoad1 (ds.map (prD k)) := by
  unfold startLoad startLoad1
  rw [pr_foldl_sd n k hk ds _ (by simp [hc]) hw, pr_zero]
  simp

theorem loadsAfter_lengths (n : Nat) : ∀ (ds : List Dem) (s : List Int), s.length = n → (∀ d ∈ ds, WF n d) →
    ∀ l ∈ loadsAfter s ds, l.length = n := by
  intro ds
  induction ds with
  | nil => intro s _ _ l hl; simp [loadsAfter] at hl
  | cons d ds ih =>
    intro s hs hw l hl
    simp only [loadsAfter, List.mem_cons] at hl
    have hl1 : (vadd s d.change).length = n := vadd_length _ _ n hs (change_length n d (hw d (by simp)))
    rcases hl with rfl | hl
    · exact hl1
    · exact ih _ hl1 (fun e he => hw e (by simp [he])) l hl

theorem map_pr_loadsAfter (n k : Nat) (hk : k < n) : ∀ (ds : List Dem) (s : List Int), s.length = n → (∀ d ∈ ds, WF n d) →
    (loadsAfter s ds).map (pr k) = after1 (pr k s) (ds.map (prD k)) := by
  intro ds
  induction ds with
  | nil => intro s _ _; simp [loadsAfter, after1]
  | cons d ds ih =>
    intro s hs hw
    have hwd := hw d (by simp)
    have hl1 : (vadd s d.change).length = n := vadd_length _ _ n hs (change_length n d hwd)
    simp only [loadsAfter, List.map_cons, after1]
    rw [ih _ hl1 (fun e he => hw e (by simp [he])), pr_vadd _ _ n k hs (change_length n d hwd) hk,
        pr_change n k d hwd hk]

theorem map_pr_loadProfile (n k : Nat) (hk : k < n) (cap : List Int) (hc : cap.length = n) (ds : List Dem)
    (hw : ∀ d ∈ ds, WF n d) :
    (loadProfile (cap.map (fun _ => 0)) ds).map (pr k) = loads1 (ds.map (prD k)) := by
  unfold loadProfile loads1
  have hs := startLoad_length n (cap.map (fun _ => 0)) ds (by simp [hc]) hw
  simp only [List.map_cons]
  rw [map_pr_loadsAfter n k hk ds _ hs hw, pr_startLoad n k hk cap hc ds hw]

theorem loadProfile_lengths (n : Nat) (cap : List Int) (hc : cap.length = n) (ds : List Dem) (hw : ∀ d ∈ ds, WF n d) :
    ∀ l ∈ loadProfile (cap.map (fun _ => 0)) ds, l.length = n := by
  intro l hl
  have hs := startLoad_length n (cap.map (fun _ => 0)) ds (by simp [hc]) hw
  simp only [loadProfile, List.mem_cons] at hl
  rcases hl with rfl | hl
  · exact hs
  · exact loadsAfter_lengths n ds _ hs hw l hl

theorem runMax_lengths (n : Nat) : ∀ (ls : List (List Int)) (m : List Int), m.length = n →
    (∀ l ∈ ls, l.length = n) → ∀ l ∈ runMax m ls, l.length = n := by
  intro ls
  induction ls with
  | nil => intro m _ _ l hl; simp [runMax] at hl
  | cons a ls ih =>
    intro m hm h l hl
    have h1 := vmax_length _ _ n hm (h a (by simp))
    simp only [runMax, List.mem_cons] at hl
    rcases hl with rfl | hl
    · exact h1
    · exact ih _ h1 (fun e he => h e (by simp [he])) l hl

theorem map_pr_runMax (n k : Nat) (hk : k < n) : ∀ (ls : List (List Int)) (m : List Int), m.length = n →
    (∀ l ∈ ls, l.length = n) → (runMax m ls).map (pr k) = runMax1 (pr k m) (ls.map (pr k)) := by
  intro ls
  induction ls with
  | nil => intro m _ _; simp [runMax, runMax1]
  | cons l ls ih =>
    intro m hm hl
    have hl0 := hl l (by simp)
    simp only [runMax, runMax1, List.map_cons]
    rw [ih _ (vmax_length _ _ n hm hl0) (fun e he => hl e (by simp [he])), pr_vmax _ _ n k hm hl0 hk]

/-- `max_future`, one step (the empty case of the `match` in `maxFuture` cannot occur) -/
theorem maxFuture_cons_cons (a b : List Int) (q : List (List Int)) :
    ∃ m tail, maxFuture (b :: q) = m :: tail ∧ maxFuture (a :: b :: q) = vmax a m :: m :: tail := by
  cases h : maxFuture (b :: q) with
  | nil =>
    cases q with
    | nil => cases h
    | cons c q => rw [maxFuture] at h; split at h <;> cases h
  | cons m tail => exact ⟨m, tail, rfl, by rw [maxFuture, h]⟩

theorem maxFuture_lengths (n : Nat) : ∀ (ls : List (List Int)), (∀ l ∈ ls, l.length = n) →
    ∀ l ∈ maxFuture ls, l.length = n := by
  intro ls
  induction ls with
  | nil => intro _ l hl; cases hl
  | cons a rest ih =>
    intro h l hl
    cases rest with
    | nil => exact h l hl
    | cons b rest =>
      obtain ⟨m, tail, h1, h2⟩ := maxFuture_cons_cons a b rest
      have ihr := ih (fun e he => h e (List.mem_cons_of_mem _ he))
      rw [h1] at ihr
      rw [h2] at hl
      rcases List.mem_cons.mp hl with rfl | hl
      · exact vmax_length _ _ n (h a List.mem_cons_self) (ihr m List.mem_cons_self)
      · exact ihr l hl

theorem map_pr_maxFuture (n k : Nat) (hk : k < n) : ∀ (ls : List (List Int)), (∀ l ∈ ls, l.length = n) →
    (maxFuture ls).map (pr k) = maxFuture1 (ls.map (pr k)) := by
  intro ls
  induction ls with
  | nil => intro _; rfl
  | cons a rest ih =>
    intro h
    cases rest with
    | nil => rfl
    | cons b rest =>
      have hrest := fun e he => h e (List.mem_cons_of_mem a he)
      obtain ⟨m, tail, h1, h2⟩ := maxFuture_cons_cons a b rest
      have hm : m.length = n := maxFuture_lengths n _ hrest m (h1 ▸ List.mem_cons_self)
      have ihr := ih hrest
      rw [h1] at ihr
      rw [h2]
      simp only [List.map_cons] at ihr ⊢
      rw [maxFuture1_cons_cons, ← ihr, List.getD_cons_zero, pr_vmax _ _ n k (h a List.mem_cons_self) hm hk]

theorem pr_getD (k : Nat) (ls : List (List Int)) (i : Nat) (zero : List Int) (hz : pr k zero = 0) :
    pr k (ls.getD i zero) = (ls.map (pr k)).getD i 0 := by
  simp only [List.getD_eq_getElem?_getD, List.getElem?_map]
  cases ls[i]? with
  | none => simpa using hz
  | some l => simp

theorem getD_lengths (n : Nat) (ls : List (List Int)) (i : Nat) (zero : List Int) (hz : zero.length = n)
    (h : ∀ l ∈ ls, l.length = n) : (ls.getD i zero).length = n :=
  (C06.getD_eq_or_mem ls i zero).elim (fun e => (congrArg List.length e).trans hz) (h _)

theorem hdv_none_iff (cap past fut cur : List Int) (x : Dem) (st : Bool) :
    C06.hasDemandViolation cap past fut cur x st = none ↔
      (vNotEmpty x.sd && !vfits cap (vadd past x.sd)) = false ∧
      (vNotEmpty x.sp && !vfits cap (vadd fut x.sp)) = false ∧
      (vNotEmpty (vadd x.change x.sd) &&
        (!vfits cap (vadd fut (vadd x.change x.sd)) || !vfits cap (vadd cur (vadd x.change x.sd)))) = false := by
  rw [← Option.not_isSome_iff_eq_none, hdv_isSome, Bool.not_eq_true, Bool.or_eq_false_iff, Bool.or_eq_false_iff,
    and_assoc]

theorem clause_off (g f : Bool) (h : (g && !f) = false) (hg : g = true) : f = true := by
  cases g <;> cases f <;> simp_all

theorem clause_off' (g f : Bool) (hf : f = true) : (g && !f) = false := by
  rw [hf, Bool.not_true, Bool.and_false]

theorem clause_or (g f1 f2 : Bool) : (g && (!f1 || !f2)) = false ↔ (g && !f1) = false ∧ (g && !f2) = false := by
  cases g <;> cases f1 <;> cases f2 <;> decide

theorem clause_pr (n k : Nat) (hk : k < n) (cap a b : List Int) (hc : cap.length = n) (ha : a.length = n)
    (hb : b.length = n) (h : (vNotEmpty b && !vfits cap (vadd a b)) = false) :
    pr k b = 0 ∨ pr k a + pr k b ≤ pr k cap := by
  cases hg : vNotEmpty b with
  | false => exact Or.inl (vNotEmpty_false b hg k)
  | true => exact Or.inr ((vfits_vadd_iff cap a b n hc ha hb).mp (clause_off _ _ h hg) k hk)

theorem vfits_of_clause (n : Nat) (cap a b : List Int) (hc : cap.length = n) (ha : a.length = n) (hb : b.length = n)
    (h : ∀ k, k < n → pr k a ≤ pr k cap ∧ (pr k b = 0 ∨ pr k a + pr k b ≤ pr k cap)) :
    vfits cap (vadd a b) = true :=
  (vfits_vadd_iff cap a b n hc ha hb).mpr fun k hk =>
    (h k hk).2.elim (fun e => by rw [e, Int.add_zero]; exact (h k hk).1) id

theorem change_sd_length (n : Nat) (x : Dem) (hx : WF n x) : (vadd x.change x.sd).length = n :=
  vadd_length _ _ n (change_length n x hx) hx.2.2.1

theorem pr_change_sd (n k : Nat) (x : Dem) (hx : WF n x) (hk : k < n) :
    pr k (vadd x.change x.sd) = (prD k x).change + (prD k x).sd := by
  rw [pr_vadd _ _ n k (change_length n x hx) hx.2.2.1 hk, pr_change n k x hx hk]
  rfl

theorem viol1_of_vec (n k : Nat) (hk : k < n) (cap past fut cur : List Int) (x : Dem) (st : Bool)
    (hc : cap.length = n) (hp : past.length = n) (hf : fut.length = n) (hu : cur.length = n) (hx : WF n x)
    (h : C06.hasDemandViolation cap past fut cur x st = none) :
    viol1 (pr k cap) (pr k past) (pr k fut) (pr k cur) (prD k x) = false := by
  obtain ⟨cA, cB, cC⟩ := (hdv_none_iff cap past fut cur x st).mp h
  obtain ⟨cC1, cC2⟩ := (clause_or _ _ _).mp cC
  have hch := change_sd_length n x hx
  have hC1 := clause_pr n k hk cap fut _ hc hf hch cC1
  have hC2 := clause_pr n k hk cap cur _ hc hu hch cC2
  rw [pr_change_sd n k x hx hk] at hC1 hC2
  exact (viol1_false_iff ..).mpr ⟨clause_pr n k hk cap past x.sd hc hp hx.2.2.1 cA,
    clause_pr n k hk cap fut x.sp hc hf hx.1 cB, hC1.elim Or.inl fun h1 => hC2.imp_right fun h2 => ⟨h1, h2⟩⟩

theorem capOk_iff (n : Nat) (cap : List Int) (hc : cap.length = n) (ds : List Dem) (hw : ∀ d ∈ ds, WF n d) :
    capOk cap ds = true ↔ ∀ k, k < n → capOk1 (pr k cap) (ds.map (prD k)) := by
  unfold capOk capOk1
  have hl := loadProfile_lengths n cap hc ds hw
  simp only [List.all_eq_true]
  constructor
  · intro h k hk l hl1
    rw [← map_pr_loadProfile n k hk cap hc ds hw] at hl1
    obtain ⟨v, hv, rfl⟩ := List.mem_map.mp hl1
    exact (vfits_iff cap v n hc (hl v hv)).mp (h v hv) k hk
  · intro h v hv
    apply (vfits_iff cap v n hc (hl v hv)).mpr
    intro k hk
    apply h k hk
    rw [← map_pr_loadProfile n k hk cap hc ds hw]
    exact List.mem_map.mpr ⟨v, hv, rfl⟩

theorem map_insertAt {α β : Type} (f : α → β) (l : List α) (i : Nat) (x : α) :
    (insertAt l i x).map f = insertAt (l.map f) i (f x) := by
  rw [insertAt, insertAt, List.map_append, List.map_cons, List.map_take, List.map_drop]

theorem map_prD_insertAt (k : Nat) (ds : List Dem) (p : Nat) (x : Dem) :
    (insertAt ds p x).map (prD k) = insertAt1 (ds.map (prD k)) p (prD k x) := map_insertAt (prD k) ds p x

theorem wf_insertAt (n : Nat) (ds : List Dem) (p : Nat) (x : Dem) (hw : ∀ d ∈ ds, WF n d) (hx : WF n x) :
    ∀ d ∈ insertAt ds p x, WF n d :=
  fun d hd => (C06.mem_insertAt ds p x d hd).elim (fun e => e ▸ hx) (hw d)

section caches
variable (n : Nat) (cap : List Int) (hc : cap.length = n) (ds : List Dem) (hw : ∀ d ∈ ds, WF n d) (i : Nat)
include hc hw

theorem past_length :
    ((runMax (cap.map (fun _ => 0)) (loadProfile (cap.map (fun _ => 0)) ds)).getD i (cap.map (fun _ => 0))).length = n := by
  have hz : (cap.map (fun _ => (0 : Int))).length = n := by rw [List.length_map, hc]
  exact getD_lengths n _ i _ hz (runMax_lengths n _ _ hz (loadProfile_lengths n cap hc ds hw))

theorem fut_length :
    ((maxFuture (loadProfile (cap.map (fun _ => 0)) ds)).getD i (cap.map (fun _ => 0))).length = n :=
  getD_lengths n _ i _ (by rw [List.length_map, hc]) (maxFuture_lengths n _ (loadProfile_lengths n cap hc ds hw))

theorem cur_length :
    ((loadProfile (cap.map (fun _ => 0)) ds).getD i (cap.map (fun _ => 0))).length = n :=
  getD_lengths n _ i _ (by rw [List.length_map, hc]) (loadProfile_lengths n cap hc ds hw)

variable (k : Nat) (hk : k < n)
include hk

theorem pr_past :
    pr k ((runMax (cap.map (fun _ => 0)) (loadProfile (cap.map (fun _ => 0)) ds)).getD i (cap.map (fun _ => 0)))
      = (runMax1 0 (loads1 (ds.map (prD k)))).getD i 0 := by
  rw [pr_getD k _ i _ (pr_zero cap k), map_pr_runMax n k hk _ _ (by rw [List.length_map, hc])
    (loadProfile_lengths n cap hc ds hw), map_pr_loadProfile n k hk cap hc ds hw, pr_zero cap k]

theorem pr_fut :
    pr k ((maxFuture (loadProfile (cap.map (fun _ => 0)) ds)).getD i (cap.map (fun _ => 0)))
      = (maxFuture1 (loads1 (ds.map (prD k)))).getD i 0 := by
  rw [pr_getD k _ i _ (pr_zero cap k), map_pr_maxFuture n k hk _ (loadProfile_lengths n cap hc ds hw),
    map_pr_loadProfile n k hk cap hc ds hw]

theorem pr_cur :
    pr k ((loadProfile (cap.map (fun _ => 0)) ds).getD i (cap.map (fun _ => 0)))
      = (loads1 (ds.map (prD k))).getD i 0 := by
  rw [pr_getD k _ i _ (pr_zero cap k), map_pr_loadProfile n k hk cap hc ds hw]

end caches

/-- **C06 soundness (capacity, any number of dimensions)**: if the model of `has_demand_violation`, fed with
    the cached `max_past / max_future / current` at the pivot (exactly what `C06.capViolationAt` passes),
    reports no violation, then the load profile of the tour with the job inserted stays within capacity in
    every dimension. -/
theorem cap_sound_vec (n : Nat) (cap : List Int) (ds : List Dem) (p : Nat) (x : Dem) (st : Bool)
    (hc : cap.length = n) (hw : ∀ d ∈ ds, WF n d) (hx : WF n x) (hp : p ≤ ds.length)
    (hok : capOk cap ds = true)
    (hnv : C06.hasDemandViolation cap
            ((C06.loadCaches (cap.map (fun _ => 0)) ds).2.1.getD p (cap.map (fun _ => 0)))
            ((C06.loadCaches (cap.map (fun _ => 0)) ds).2.2.getD p (cap.map (fun _ => 0)))
            ((C06.loadCaches (cap.map (fun _ => 0)) ds).1.getD p (cap.map (fun _ => 0))) x st = none) :
    capOk cap (insertAt ds p x) = true := by
  rw [capOk_iff n cap hc _ (wf_insertAt n ds p x hw hx)]
  intro k hk
  have hv := viol1_of_vec n k hk cap _ _ _ x st hc (past_length n cap hc ds hw p) (fut_length n cap hc ds hw p)
    (cur_length n cap hc ds hw p) hx hnv
  rw [pr_past n cap hc ds hw p k hk, pr_fut n cap hc ds hw p k hk, pr_cur n cap hc ds hw p k hk] at hv
  rw [map_prD_insertAt]
  exact cap_sound1 (pr k cap) (ds.map (prD k)) p (prD k x) (by rw [List.length_map]; exact hp)
    ((capOk_iff n cap hc ds hw).mp hok k hk) hv

/-! non-vacuity: two dimensions, an accepted and a refused insertion -/
example : capOk [10, 5] [⟨[8, 1], [0, 0], [0, 0], [0, 0]⟩] = true := by decide +kernel
example : C06.hasDemandViolation [10, 5]
    ((C06.loadCaches [0, 0] [⟨[8, 1], [0, 0], [0, 0], [0, 0]⟩]).2.1.getD 1 [0, 0])
    ((C06.loadCaches [0, 0] [⟨[8, 1], [0, 0], [0, 0], [0, 0]⟩]).2.2.getD 1 [0, 0])
    ((C06.loadCaches [0, 0] [⟨[8, 1], [0, 0], [0, 0], [0, 0]⟩]).1.getD 1 [0, 0])
    ⟨[2, 3], [0, 0], [0, 0], [0, 0]⟩ true = none := by decide +kernel
example : (C06.hasDemandViolation [10, 5]
    ((C06.loadCaches [0, 0] [⟨[8, 1], [0, 0], [0, 0], [0, 0]⟩]).2.1.getD 1 [0, 0])
    ((C06.loadCaches [0, 0] [⟨[8, 1], [0, 0], [0, 0], [0, 0]⟩]).2.2.getD 1 [0, 0])
    ((C06.loadCaches [0, 0] [⟨[8, 1], [0, 0], [0, 0], [0, 0]⟩]).1.getD 1 [0, 0])
    ⟨[2, 5], [0, 0], [0, 0], [0, 0]⟩ true).isSome = true := by decide +kernel

end C06Cap
