import VrpProofs.C14.Lists
/-!
# C14 — the code-shaped tour refines the reference tour

`Sim t r`: the mirror tour `t` (activity vector + separately maintained job set + closed flag)
represents the reference tour `r` (list of job activities + closed flag).
-/

namespace C14

def jobAct (p : Nat × Nat) : Act := Act.job p.1 p.2
def ends (c : Bool) : List Act := if c then [Act.finish] else []

theorem render_eq (r : RTour) : r.render = Act.start :: (r.mid.map jobAct ++ ends r.closed) := by
  rfl

theorem length_ends (c : Bool) : (ends c).length = if c then 1 else 0 := by
  cases c <;> rfl

theorem length_render (r : RTour) : r.render.length = r.mid.length + 1 + (if r.closed then 1 else 0) := by
  rw [render_eq, List.length_cons, List.length_append, List.length_map, length_ends, Nat.add_right_comm]

structure Sim (t : Tour) (r : RTour) : Prop where
  acts : t.acts = r.render
  closed : t.closed = r.closed
  nodup : t.jobs.Nodup
  mem : ∀ j, j ∈ t.jobs ↔ j ∈ r.mid.map Prod.fst

/-- the invariant of the property statement: the tour represents *some* list of job activities -/
def Tour.WF (t : Tour) : Prop := ∃ r, Sim t r

theorem sim_new (c : Bool) : Sim (Tour.new c) (RTour.new c) := by
  constructor
  · cases c <;> rfl
  · rfl
  · simp [Tour.new]
  · intro j; simp [Tour.new, RTour.new]

theorem jac_of_sim {t r} (h : Sim t r) : t.jobActivityCount = r.mid.length := by
  unfold Tour.jobActivityCount
  rw [h.acts, h.closed, length_render]
  -- `r.render` starts with `Act.start`, so `isEmpty` computes to `false`
  show (if false = true then 0 else _) = _
  cases r.closed
  · exact Nat.add_sub_cancel r.mid.length 1
  · exact Nat.add_sub_cancel r.mid.length 2

theorem total_of_sim {t r} (h : Sim t r) :
    t.total = r.mid.length + 1 + (if r.closed then 1 else 0) := by
  unfold Tour.total; rw [h.acts]; exact length_render r

theorem sim_insertAt {t r} (h : Sim t r) {j s i : Nat} {r' : RTour} (hr : r.insertAt j s i = some r') :
    (t.insertAtRaw (Act.job j s) i).2 = false ∧ Sim (t.insertAtRaw (Act.job j s) i).1 r' := by
  unfold RTour.insertAt at hr
  split at hr
  case isFalse => cases hr
  case isTrue hi =>
    cases hr
    obtain ⟨k, rfl⟩ : ∃ k, i = k + 1 := ⟨i - 1, (Nat.sub_add_cancel hi.1).symm⟩
    have hkl : k ≤ r.mid.length := Nat.le_of_succ_le_succ hi.2
    have hle : ¬ k + 1 > t.acts.length := by
      rw [h.acts, length_render]
      exact Nat.not_lt.mpr (Nat.le_trans hi.2 (Nat.le_add_right _ _))
    have hne : t.acts.isEmpty = false := by rw [h.acts]; rfl
    simp only [Tour.insertAtRaw, Act.jobId?, hne, hle, if_false, Bool.false_eq_true]
    refine ⟨trivial, ?_, h.closed, nodup_setInsert h.nodup, fun x => ?_⟩
    · show vecInsert t.acts (k + 1) (Act.job j s) = _
      rw [h.acts, render_eq, render_eq, vecInsert_cons_succ,
        vecInsert_append_left _ _ _ _ (by rw [List.length_map]; exact hkl), map_vecInsert]
      rfl
    · show x ∈ setInsert j t.jobs ↔ x ∈ (vecInsert r.mid (k + 1 - 1) (j, s)).map Prod.fst
      rw [map_vecInsert, mem_setInsert, mem_vecInsert, h.mem]

theorem insertLast_eq_insertAt (r : RTour) (j s : Nat) :
    r.insertAt j s (r.mid.length + 1) = some (r.insertLast j s) := by
  unfold RTour.insertAt RTour.insertLast
  rw [if_pos ⟨Nat.le_add_left 1 _, Nat.le_refl _⟩, Nat.add_sub_cancel, vecInsert_length_eq]

theorem sim_insertLast {t r} (h : Sim t r) (j s : Nat) :
    (t.insertLastRaw (Act.job j s)).2 = false ∧ Sim (t.insertLastRaw (Act.job j s)).1 (r.insertLast j s) := by
  unfold Tour.insertLastRaw
  rw [jac_of_sim h]
  exact sim_insertAt h (insertLast_eq_insertAt r j s)

theorem hasJob_jobAct (j : Nat) (p : Nat × Nat) : Act.hasJob j (jobAct p) = (p.1 == j) := by
  rfl

theorem filter_render_not (r : RTour) (j : Nat) :
    r.render.filter (fun a => !a.hasJob j) = ({ r with mid := r.mid.filter (fun p => p.1 != j) } : RTour).render := by
  rw [render_eq, render_eq]
  have hs : ∀ l, List.filter (fun a => !a.hasJob j) (Act.start :: l)
      = Act.start :: List.filter (fun a => !a.hasJob j) l := fun l => rfl
  have he : (ends r.closed).filter (fun a => !a.hasJob j) = ends r.closed := by
    cases r.closed <;> rfl
  rw [hs, List.filter_append, he]
  congr 2
  rw [List.filter_map]
  show List.map jobAct _ = List.map jobAct (List.filter (fun p => p.fst != j) r.mid)
  congr 1

theorem contains_of_sim {t r} (h : Sim t r) (j : Nat) : t.contains j = r.mid.any (fun p => p.1 == j) := by
  rw [Tour.contains, Bool.eq_iff_iff, List.contains_iff_mem, h.mem, List.any_eq_true, List.mem_map]
  exact exists_congr fun p => and_congr_right fun _ => beq_iff_eq.symm

theorem sim_remove {t r} (h : Sim t r) (j : Nat) :
    (t.remove j).2 = (r.remove j).2 ∧ Sim (t.remove j).1 (r.remove j).1 := by
  refine ⟨contains_of_sim h j, ?_, h.closed, nodup_setRemove h.nodup, fun x => ?_⟩
  · show t.acts.filter (fun a => !a.hasJob j) = _
    rw [h.acts, filter_render_not]; rfl
  · show x ∈ setRemove j t.jobs ↔ x ∈ (r.mid.filter (fun p : Nat × Nat => p.1 != j)).map Prod.fst
    rw [mem_setRemove, h.mem, List.mem_map, List.mem_map]
    constructor
    · rintro ⟨⟨p, hp, rfl⟩, hx⟩
      exact ⟨p, List.mem_filter.mpr ⟨hp, bne_iff_ne.mpr hx⟩, rfl⟩
    · rintro ⟨p, hp, rfl⟩
      exact ⟨⟨p, (List.mem_filter.mp hp).1, rfl⟩, bne_iff_ne.mp (List.mem_filter.mp hp).2⟩

theorem insertAtRaw_closed (t : Tour) (a : Act) (i : Nat) : (t.insertAtRaw a i).1.closed = t.closed := by
  unfold Tour.insertAtRaw
  split
  · rfl
  · split
    · rfl
    · split <;> rfl

theorem removeActivityAt_closed (t : Tour) (i : Nat) : (t.removeActivityAt i).1.closed = t.closed := by
  unfold Tour.removeActivityAt
  split
  · rfl
  · split <;> rfl

theorem filterMap_jobId?_render (r : RTour) : r.render.filterMap Act.jobId? = r.mid.map Prod.fst := by
  rw [render_eq]
  show List.filterMap Act.jobId? (r.mid.map jobAct ++ ends r.closed) = _
  have he : (ends r.closed).filterMap Act.jobId? = [] := by cases r.closed <;> rfl
  rw [List.filterMap_append, he, List.append_nil, List.filterMap_map]
  exact congrFun (List.filterMap_eq_map (f := Prod.fst)) r.mid

theorem render_getElem?_succ (r : RTour) (k : Nat) :
    r.render[k + 1]? = if k < r.mid.length then (r.mid[k]?).map jobAct else (ends r.closed)[k - r.mid.length]? := by
  rw [render_eq, List.getElem?_cons_succ, List.getElem?_append]
  simp only [List.length_map, List.getElem?_map]

theorem sim_removeAt {t r} (h : Sim t r) (i : Nat) :
    (t.removeActivityAt i).2 = (r.removeActivityAt i).2 ∧ Sim (t.removeActivityAt i).1 (r.removeActivityAt i).1 := by
  unfold Tour.removeActivityAt RTour.removeActivityAt
  rw [h.acts]
  cases i with
  | zero => exact ⟨rfl, h⟩
  | succ k =>
    rw [render_getElem?_succ]
    simp only [Nat.succ_ne_zero, if_false, Nat.add_sub_cancel]
    by_cases hk : k < r.mid.length
    · rw [if_pos hk, List.getElem?_eq_getElem hk]
      exact ⟨rfl, (sim_remove h _).2⟩
    · rw [if_neg hk, List.getElem?_eq_none (Nat.le_of_not_lt hk)]
      cases r.closed
      · exact ⟨rfl, h⟩
      · cases k - r.mid.length <;> exact ⟨rfl, h⟩

end C14
