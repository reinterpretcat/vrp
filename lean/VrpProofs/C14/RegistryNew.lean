import VrpProofs.C14.Registry
/-!
# C14 — `Fleet::groups` / `Registry::new` establish the registry invariant
-/

namespace C14

/-- loop invariant of the fold that builds `Fleet::groups`, after the actors `< k` -/
structure GInv (f : Fleet) (k : Nat) (acc : List (Nat × List Nat)) : Prop where
  keys : (acc.map Prod.fst).Nodup
  sets : ∀ g s, (g, s) ∈ acc → s.Nodup
  mem : ∀ g s a, (g, s) ∈ acc → (a ∈ s ↔ a < k ∧ f[a]? = some g)
  ex : ∀ a g, a < k → f[a]? = some g → ∃ s, (g, s) ∈ acc

/-- `entry(g).or_default().insert(a)`: the set of `g` (empty if `g` is a new key) gains `a`, the rest stays -/
theorem mem_groupsInsert {acc : List (Nat × List Nat)} {g a g' : Nat} {t' : List Nat} :
    (g', t') ∈ groupsInsert acc g a ↔
      if g' = g then t' = setInsert a ((acc.lookup g).getD []) else (g', t') ∈ acc := by
  unfold groupsInsert
  cases hl : acc.lookup g with
  | none =>
    show (g', t') ∈ acc ++ [(g, [a])] ↔ _
    rw [List.mem_append, List.mem_singleton]
    by_cases e : g' = g
    · rw [if_pos e, e]
      exact ⟨fun h => h.elim (fun hp => absurd hp (not_mem_of_lookup_none hl _)) (fun e' => (Prod.mk.inj e').2),
        fun e' => Or.inr (by rw [e']; rfl)⟩
    · rw [if_neg e]
      exact ⟨fun h => h.elim id (fun e' => absurd (Prod.mk.inj e').1 e), Or.inl⟩
  | some s =>
    show (g', t') ∈ assocUpdate acc g (setInsert a s) ↔ _
    rw [mem_assocUpdate]
    by_cases e : g' = g
    · simp only [if_pos e]
      exact ⟨fun ⟨_, _, e'⟩ => e', fun e' => ⟨s, e ▸ lookup_mem hl, e'⟩⟩
    · simp only [if_neg e]
      exact ⟨fun ⟨_, hp, e'⟩ => e' ▸ hp, fun hp => ⟨t', hp, rfl⟩⟩

theorem keys_groupsInsert {acc : List (Nat × List Nat)} (g a : Nat) (h : (acc.map Prod.fst).Nodup) :
    ((groupsInsert acc g a).map Prod.fst).Nodup := by
  unfold groupsInsert
  cases hl : acc.lookup g with
  | none =>
    show ((acc ++ [(g, [a])]).map Prod.fst).Nodup
    rw [List.map_append, List.nodup_append]
    refine ⟨h, List.pairwise_singleton _ g, fun x hx y hy e => ?_⟩
    obtain ⟨⟨g', s'⟩, hp, rfl⟩ := List.mem_map.mp hx
    cases List.mem_singleton.mp hy
    exact not_mem_of_lookup_none hl s' ((show g' = g from e) ▸ hp)
  | some s =>
    show ((assocUpdate acc g (setInsert a s)).map Prod.fst).Nodup
    rw [map_fst_assocUpdate]; exact h

theorem ginv_step {f : Fleet} {k : Nat} {acc : List (Nat × List Nat)} {g : Nat}
    (h : GInv f k acc) (hk : f[k]? = some g) : GInv f (k + 1) (groupsInsert acc g k) := by
  -- `s0`: the actors `< k` of group `g`
  obtain ⟨s0, hins, hnd, hmem0⟩ : ∃ s0,
      (∀ g' t', (g', t') ∈ groupsInsert acc g k ↔ if g' = g then t' = setInsert k s0 else (g', t') ∈ acc) ∧
      s0.Nodup ∧ ∀ x, x ∈ s0 ↔ x < k ∧ f[x]? = some g := by
    refine ⟨_, fun _ _ => mem_groupsInsert, ?_⟩
    cases hl : acc.lookup g with
    | some s => exact ⟨h.sets g s (lookup_mem hl), fun x => h.mem g s x (lookup_mem hl)⟩
    | none =>
      refine ⟨List.nodup_nil, fun x => ⟨fun hx => (nomatch hx), fun ⟨h1, h2⟩ => ?_⟩⟩
      obtain ⟨s, hp⟩ := h.ex x g h1 h2
      exact absurd hp (not_mem_of_lookup_none hl s)
  have hlt : ∀ {x g'}, g' ≠ g → f[x]? = some g' → x < k + 1 → x < k := fun hne hx h1 =>
    (Nat.lt_succ_iff_lt_or_eq.mp h1).resolve_right fun ex => by
      rw [ex, hk] at hx; exact hne (Option.some.inj hx).symm
  refine ⟨keys_groupsInsert g k h.keys, fun g' t' hp => ?_, fun g' t' x hp => ?_, fun x g' hx hg' => ?_⟩
  · have := (hins g' t').mp hp
    split at this
    · rw [this]; exact nodup_setInsert hnd
    · exact h.sets g' t' this
  · have := (hins g' t').mp hp
    split at this
    next e =>
      rw [this, mem_setInsert, hmem0 x, e]
      constructor
      · rintro (rfl | ⟨h1, h2⟩)
        · exact ⟨Nat.lt_succ_self _, hk⟩
        · exact ⟨Nat.lt_succ_of_lt h1, h2⟩
      · rintro ⟨h1, h2⟩
        exact (Nat.lt_succ_iff_lt_or_eq.mp h1).elim (fun h1 => Or.inr ⟨h1, h2⟩) Or.inl
    next e =>
      rw [h.mem g' t' x this]
      exact and_congr_left fun h2 => ⟨Nat.lt_succ_of_lt, hlt e h2⟩
  · by_cases e : g' = g
    · exact ⟨_, (hins g' _).mpr (by rw [if_pos e])⟩
    · obtain ⟨t, ht⟩ := h.ex x g' (hlt e hg' hx) hg'
      exact ⟨t, (hins g' t).mpr (by rw [if_neg e]; exact ht)⟩

theorem ginv_groupsFrom {f : Fleet} : ∀ (gs : List Nat) (k : Nat) (acc : List (Nat × List Nat)),
    GInv f k acc → f.drop k = gs → GInv f (k + gs.length) (groupsFrom gs k acc)
  | [], _, _, h, _ => h
  | g :: rest, k, acc, h, hd => by
    have hk : f[k]? = some g := by rw [← List.head?_drop, hd]; rfl
    have hrest : f.drop (k + 1) = rest := by rw [List.drop_add_one_eq_tail_drop, hd]; rfl
    rw [groupsFrom, List.length_cons, Nat.add_left_comm, Nat.add_comm]
    exact ginv_groupsFrom rest (k + 1) _ (ginv_step h hk) hrest

theorem ginv_groups (f : Fleet) : GInv f f.length f.groups := by
  have := ginv_groupsFrom (f := f) f 0 [] ⟨List.nodup_nil, fun _ _ h => (nomatch h), fun _ _ _ h => (nomatch h),
    fun _ _ h => (nomatch h)⟩ rfl
  rwa [Nat.zero_add] at this

theorem lt_length_of_getElem? {f : Fleet} {a g : Nat} (h : f[a]? = some g) : a < f.length :=
  (List.getElem?_eq_some_iff.mp h).1

theorem mem_groups_iff (f : Fleet) {g a : Nat} {s : List Nat} (hp : (g, s) ∈ f.groups) :
    a ∈ s ↔ f[a]? = some g :=
  ((ginv_groups f).mem g s a hp).trans ⟨fun h => h.2, fun h => ⟨lt_length_of_getElem? h, h⟩⟩

theorem groups_ex (f : Fleet) {a g : Nat} (h : f[a]? = some g) : ∃ s, (g, s) ∈ f.groups :=
  (ginv_groups f).ex a g (lt_length_of_getElem? h) h

theorem new_index_lookup (f : Fleet) (a g : Nat) :
    (Registry.new f).index.lookup a = some g ↔ f[a]? = some g := by
  have hidx : ∀ a g, (a, g) ∈ (Registry.new f).index ↔ ∃ s, (g, s) ∈ f.groups ∧ a ∈ s := by
    intro a g
    simp only [Registry.new, List.mem_flatMap, List.mem_map]
    constructor
    · rintro ⟨⟨g', s⟩, hp, a', ha', e⟩
      cases e; exact ⟨s, hp, ha'⟩
    · rintro ⟨s, hp, ha⟩; exact ⟨(g, s), hp, a, ha, rfl⟩
  have hfwd : ∀ g, (Registry.new f).index.lookup a = some g → f[a]? = some g := fun g h => by
    obtain ⟨s, hp, ha⟩ := (hidx a g).mp (lookup_mem h)
    exact (mem_groups_iff f hp).mp ha
  refine ⟨hfwd g, fun h => ?_⟩
  obtain ⟨s, hp⟩ := groups_ex f h
  have hin : (a, g) ∈ (Registry.new f).index := (hidx a g).mpr ⟨s, hp, (mem_groups_iff f hp).mpr h⟩
  cases hl : (Registry.new f).index.lookup a with
  | none => exact absurd hin (not_mem_of_lookup_none hl g)
  | some g' => exact (hfwd g' hl).symm.trans h

theorem new_inv (f : Fleet) : RInv (Registry.new f) := by
  refine ⟨(ginv_groups f).keys, fun a g hi => ?_, fun a => ?_,
    fun g s a hp ha => (new_index_lookup f a g).mpr ((mem_groups_iff f hp).mp ha), (ginv_groups f).sets,
    List.nodup_range⟩
  · obtain ⟨s, hp⟩ := groups_ex f ((new_index_lookup f a g).mp hi)
    exact ⟨s, mem_lookup_of_nodup (ginv_groups f).keys hp⟩
  · show _ ↔ a ∈ List.range f.length
    rw [List.mem_range]
    constructor
    · intro hs
      obtain ⟨g, hg⟩ := Option.isSome_iff_exists.mp hs
      exact lt_length_of_getElem? ((new_index_lookup f a g).mp hg)
    · intro ha
      rw [(new_index_lookup f a f[a]).mpr (List.getElem?_eq_getElem ha)]; rfl

theorem new_isAvail (f : Fleet) (x : Nat) : (Registry.new f).isAvail x = decide (x < f.length) := by
  rw [Bool.eq_iff_iff, isAvail_iff, decide_eq_true_iff]
  constructor
  · rintro ⟨g, s, hp, hx⟩
    exact lt_length_of_getElem? ((mem_groups_iff f hp).mp hx)
  · intro hx
    have hfx : f[x]? = some f[x] := List.getElem?_eq_getElem hx
    obtain ⟨s, hp⟩ := groups_ex f hfx
    exact ⟨f[x], s, hp, (mem_groups_iff f hp).mpr hfx⟩

theorem finv_new (f : Fleet) : FInv f (Registry.new f) :=
  fun a g => (new_index_lookup f a g).mp

end C14
