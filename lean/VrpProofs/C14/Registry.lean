import VrpProofs.C14.Assoc
/-!
# C14 — the code-shaped registry (group map + index map + vector) and its invariant
-/

namespace C14

/-- structural invariant of the three containers of `Registry` (`available`: group key ↦ set of free actors,
    `index`: actor ↦ group key, `all`): `grp` every indexed group key has an entry in `available`; `reg` the
    indexed actors are the registered ones; `av` a free actor sits in the set of its own group only -/
structure RInv (r : Registry) : Prop where
  keys : (r.available.map Prod.fst).Nodup
  grp : ∀ a g, r.index.lookup a = some g → ∃ s, r.available.lookup g = some s
  reg : ∀ a, (r.index.lookup a).isSome = true ↔ a ∈ r.all
  av : ∀ g s a, (g, s) ∈ r.available → a ∈ s → r.index.lookup a = some g
  sets : ∀ g s, (g, s) ∈ r.available → s.Nodup
  all : r.all.Nodup

theorem isAvail_iff {r : Registry} {a : Nat} :
    r.isAvail a = true ↔ ∃ g s, (g, s) ∈ r.available ∧ a ∈ s := by
  unfold Registry.isAvail
  rw [List.any_eq_true]
  constructor
  · rintro ⟨⟨g, s⟩, hp, hc⟩; exact ⟨g, s, hp, List.contains_iff_mem.mp hc⟩
  · rintro ⟨g, s, hp, hc⟩; exact ⟨(g, s), hp, List.contains_iff_mem.mpr hc⟩

theorem isAvail_of_lookup {r : Registry} (h : RInv r) {a g : Nat} {s : List Nat}
    (hi : r.index.lookup a = some g) (hs : r.available.lookup g = some s) :
    r.isAvail a = s.contains a := by
  rw [Bool.eq_iff_iff, isAvail_iff, List.contains_iff_mem]
  constructor
  · rintro ⟨g', s', hp, hc⟩
    cases (h.av g' s' a hp hc).symm.trans hi
    cases (mem_lookup_of_nodup h.keys hp).symm.trans hs
    exact hc
  · intro hc; exact ⟨g, s, lookup_mem hs, hc⟩

theorem isAvail_unregistered {r : Registry} (h : RInv r) {a : Nat} (hi : r.index.lookup a = none) :
    r.isAvail a = false := by
  refine Bool.eq_false_iff.mpr fun hv => ?_
  obtain ⟨g, s, hp, hc⟩ := isAvail_iff.mp hv
  cases (h.av g s a hp hc).symm.trans hi

theorem mem_all_of_isAvail {r : Registry} (h : RInv r) {a : Nat} (hv : r.isAvail a = true) : a ∈ r.all := by
  obtain ⟨g, s, hp, hc⟩ := isAvail_iff.mp hv
  exact (h.reg a).mp (by rw [h.av g s a hp hc]; rfl)

/-- `use_actor` and `free_actor` both replace the set `s` of the actor's group by a set `s'` that differs from
    `s` at most in `a`: the invariant is kept, and availability can change for `a` only -/
theorem setGroup_spec {r : Registry} (h : RInv r) {a g : Nat} {s s' : List Nat}
    (hi : r.index.lookup a = some g) (hs : r.available.lookup g = some s)
    (hnd : s'.Nodup) (hmem : ∀ x, x ≠ a → (x ∈ s' ↔ x ∈ s)) :
    RInv { r with available := assocUpdate r.available g s' } ∧
    ∀ x, ({ r with available := assocUpdate r.available g s' } : Registry).isAvail x
      = if x = a then s'.contains a else r.isAvail x := by
  have hgs : (g, s) ∈ r.available := lookup_mem hs
  have hinv : RInv { r with available := assocUpdate r.available g s' } := by
    refine ⟨?_, ?_, h.reg, ?_, ?_, h.all⟩
    · show ((assocUpdate r.available g s').map Prod.fst).Nodup
      rw [map_fst_assocUpdate]; exact h.keys
    · intro a' g' hi'
      obtain ⟨t, ht⟩ := h.grp a' g' hi'
      show ∃ t', (assocUpdate r.available g s').lookup g' = some t'
      rw [lookup_assocUpdate, ht]
      exact ⟨_, rfl⟩
    · intro g' t' x hp hx
      obtain ⟨t, hp', rfl⟩ := mem_assocUpdate.mp hp
      show r.index.lookup x = some g'
      by_cases e : g' = g
      · rw [if_pos e] at hx
        by_cases ex : x = a
        · rw [ex, e]; exact hi
        · rw [e]; exact h.av g s x hgs ((hmem x ex).mp hx)
      · rw [if_neg e] at hx; exact h.av g' t x hp' hx
    · intro g' t' hp
      obtain ⟨t, hp', rfl⟩ := mem_assocUpdate.mp hp
      split
      · exact hnd
      · exact h.sets g' t hp'
  refine ⟨hinv, fun x => ?_⟩
  by_cases ex : x = a
  · rw [if_pos ex, ex]
    refine isAvail_of_lookup hinv hi ?_
    show (assocUpdate r.available g s').lookup g = some s'
    rw [lookup_assocUpdate, hs]
    exact congrArg some (if_pos rfl)
  · rw [if_neg ex, Bool.eq_iff_iff, isAvail_iff, isAvail_iff]
    constructor
    · rintro ⟨g', t', hp, hx⟩
      obtain ⟨t, hp', rfl⟩ := mem_assocUpdate.mp hp
      by_cases e : g' = g
      · rw [if_pos e] at hx; exact ⟨g, s, hgs, (hmem x ex).mp hx⟩
      · rw [if_neg e] at hx; exact ⟨g', t, hp', hx⟩
    · rintro ⟨g', t, hp, hx⟩
      refine ⟨g', _, mem_assocUpdate.mpr ⟨t, hp, rfl⟩, ?_⟩
      by_cases e : g' = g
      · rw [if_pos e, hmem x ex]
        rw [e] at hp
        cases (mem_lookup_of_nodup h.keys hp).symm.trans hs
        exact hx
      · rw [if_neg e]; exact hx

theorem useActor_all (r : Registry) (a : Nat) : (r.useActor a).1.all = r.all := by
  unfold Registry.useActor
  split
  · rfl
  · split <;> rfl

theorem useActor_index (r : Registry) (a : Nat) : (r.useActor a).1.index = r.index := by
  unfold Registry.useActor
  split
  · rfl
  · split <;> rfl

theorem freeActor_all (r : Registry) (a : Nat) : (r.freeActor a).1.all = r.all := by
  unfold Registry.freeActor
  split
  · rfl
  · split <;> rfl

theorem freeActor_index (r : Registry) (a : Nat) : (r.freeActor a).1.index = r.index := by
  unfold Registry.freeActor
  split
  · rfl
  · split <;> rfl

theorem use_spec {r : Registry} (h : RInv r) (a : Nat) :
    RInv (r.useActor a).1 ∧ (r.useActor a).2 = r.isAvail a ∧
    ∀ x, (r.useActor a).1.isAvail x = (r.isAvail x && x != a) := by
  cases hi : r.index.lookup a with
  | none =>
    have hu : r.useActor a = (r, false) := by rw [Registry.useActor, hi]
    have hna := isAvail_unregistered h hi
    rw [hu]
    refine ⟨h, hna.symm, fun x => ?_⟩
    by_cases e : x = a
    · rw [e, hna]; rfl
    · rw [bne_iff_ne.mpr e, Bool.and_true]
  | some g =>
    obtain ⟨s, hs⟩ := h.grp a g hi
    have hu : r.useActor a
        = ({ r with available := assocUpdate r.available g (setRemove a s) }, s.contains a) := by
      simp only [Registry.useActor, hi, hs]
    obtain ⟨hinv, hav⟩ := setGroup_spec h hi hs (nodup_setRemove (h.sets g s (lookup_mem hs)))
      (fun x ex => mem_setRemove.trans (and_iff_left ex))
    rw [hu]
    refine ⟨hinv, (isAvail_of_lookup h hi hs).symm, fun x => ?_⟩
    rw [hav x]
    by_cases e : x = a
    · rw [if_pos e, e, bne_self_eq_false, Bool.and_false]
      exact Bool.eq_false_iff.mpr fun hc => (mem_setRemove.mp (List.contains_iff_mem.mp hc)).2 rfl
    · rw [if_neg e, bne_iff_ne.mpr e, Bool.and_true]

theorem useActor_inv {r : Registry} (h : RInv r) (a : Nat) : RInv (r.useActor a).1 :=
  (use_spec h a).1

theorem useActor_snd {r : Registry} (h : RInv r) (a : Nat) : (r.useActor a).2 = r.isAvail a :=
  (use_spec h a).2.1

theorem useActor_isAvail {r : Registry} (h : RInv r) (a x : Nat) :
    (r.useActor a).1.isAvail x = (r.isAvail x && x != a) :=
  (use_spec h a).2.2 x

theorem free_spec {r : Registry} (h : RInv r) (a : Nat) :
    RInv (r.freeActor a).1 ∧ (r.freeActor a).2 = (r.all.contains a && !r.isAvail a) ∧
    ∀ x, (r.freeActor a).1.isAvail x = (r.isAvail x || (x == a && r.all.contains a)) := by
  cases hi : r.index.lookup a with
  | none =>
    have hu : r.freeActor a = (r, false) := by rw [Registry.freeActor, hi]
    have hna : r.all.contains a = false := Bool.eq_false_iff.mpr fun hm => by
      have := (h.reg a).mpr (List.contains_iff_mem.mp hm); rw [hi] at this; cases this
    rw [hu, hna]
    exact ⟨h, rfl, fun x => by rw [Bool.and_false, Bool.or_false]⟩
  | some g =>
    obtain ⟨s, hs⟩ := h.grp a g hi
    have hu : r.freeActor a
        = ({ r with available := assocUpdate r.available g (setInsert a s) }, !s.contains a) := by
      simp only [Registry.freeActor, hi, hs]
    have hall : r.all.contains a = true := List.contains_iff_mem.mpr ((h.reg a).mp (by rw [hi]; rfl))
    obtain ⟨hinv, hav⟩ := setGroup_spec h hi hs (nodup_setInsert (h.sets g s (lookup_mem hs)))
      (fun x ex => mem_setInsert.trans (or_iff_right ex))
    rw [hu, hall]
    refine ⟨hinv, by rw [Bool.true_and, isAvail_of_lookup h hi hs], fun x => ?_⟩
    rw [hav x, Bool.and_true]
    by_cases e : x = a
    · rw [if_pos e, beq_iff_eq.mpr e, Bool.or_true]
      exact List.contains_iff_mem.mpr (mem_setInsert.mpr (Or.inl rfl))
    · rw [if_neg e, beq_eq_false_iff_ne.mpr e, Bool.or_false]

theorem freeActor_inv {r : Registry} (h : RInv r) (a : Nat) : RInv (r.freeActor a).1 :=
  (free_spec h a).1

theorem freeActor_snd {r : Registry} (h : RInv r) (a : Nat) :
    (r.freeActor a).2 = (r.all.contains a && !r.isAvail a) :=
  (free_spec h a).2.1

theorem freeActor_isAvail {r : Registry} (h : RInv r) (a x : Nat) :
    (r.freeActor a).1.isAvail x = (r.isAvail x || (x == a && r.all.contains a)) :=
  (free_spec h a).2.2 x

theorem mem_deepSlice {r : Registry} {keep : Nat → Bool} {g : Nat} {s' : List Nat} :
    (g, s') ∈ (r.deepSlice keep).available ↔ ∃ s, (g, s) ∈ r.available ∧ s' = s.filter keep :=
  mem_map_val (fun _ s => List.filter keep s) (l := r.available)

theorem deepSlice_index (r : Registry) (keep : Nat → Bool) (a : Nat) :
    (r.deepSlice keep).index.lookup a = if keep a then r.index.lookup a else none :=
  lookup_filter_key r.index keep a

theorem deepSlice_isAvail (r : Registry) (keep : Nat → Bool) (x : Nat) :
    (r.deepSlice keep).isAvail x = (r.isAvail x && keep x) := by
  rw [Bool.eq_iff_iff, isAvail_iff, Bool.and_eq_true, isAvail_iff]
  constructor
  · rintro ⟨g, s', hp, hc⟩
    obtain ⟨s, hp', rfl⟩ := mem_deepSlice.mp hp
    have := List.mem_filter.mp hc
    exact ⟨⟨g, s, hp', this.1⟩, this.2⟩
  · rintro ⟨⟨g, s, hp, hc⟩, hk⟩
    exact ⟨g, _, mem_deepSlice.mpr ⟨s, hp, rfl⟩, List.mem_filter.mpr ⟨hc, hk⟩⟩

theorem deepSlice_inv {r : Registry} (h : RInv r) (keep : Nat → Bool) : RInv (r.deepSlice keep) := by
  have hkeys : ((r.deepSlice keep).available.map Prod.fst).Nodup := by
    show ((r.available.map (fun p => (p.1, p.2.filter keep))).map Prod.fst).Nodup
    rw [List.map_map]
    exact h.keys
  refine ⟨hkeys, fun a g hi => ?_, fun a => ?_, fun g s' x hp hc => ?_, fun g s' hp => ?_, h.all.filter _⟩
  · rw [deepSlice_index] at hi
    split at hi
    · obtain ⟨s, hs⟩ := h.grp a g hi
      exact ⟨_, mem_lookup_of_nodup hkeys (mem_deepSlice.mpr ⟨s, lookup_mem hs, rfl⟩)⟩
    · cases hi
  · rw [deepSlice_index]
    show _ ↔ a ∈ r.all.filter keep
    rw [List.mem_filter, ← h.reg a]
    cases keep a
    · exact iff_of_false Bool.false_ne_true fun hm => Bool.false_ne_true hm.2
    · exact (and_iff_left rfl).symm
  · obtain ⟨s, hp', rfl⟩ := mem_deepSlice.mp hp
    have := List.mem_filter.mp hc
    rw [deepSlice_index, if_pos this.2]
    exact h.av g s x hp' this.1
  · obtain ⟨s, hp', rfl⟩ := mem_deepSlice.mp hp
    exact (h.sets g s hp').filter _

def FInv (f : Fleet) (r : Registry) : Prop := ∀ a g, r.index.lookup a = some g → f[a]? = some g

theorem finv_use {f r} (h : FInv f r) (a : Nat) : FInv f (r.useActor a).1 :=
  fun b g hi => h b g (useActor_index r a ▸ hi)

theorem finv_free {f r} (h : FInv f r) (a : Nat) : FInv f (r.freeActor a).1 :=
  fun b g hi => h b g (freeActor_index r a ▸ hi)

theorem finv_slice {f r} (h : FInv f r) (keep : Nat → Bool) : FInv f (r.deepSlice keep) := by
  intro b g hi
  rw [deepSlice_index] at hi
  split at hi
  · exact h b g hi
  · cases hi

end C14
