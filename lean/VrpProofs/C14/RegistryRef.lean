import VrpProofs.C14.RegistryNew
import VrpProofs.C14.Observe
/-!
# C14 — the code-shaped registry / registry context refine the reference registry
-/

namespace C14

/-- the mirror registry `r` represents the reference registry `rr` -/
structure RSim (r : Registry) (rr : RReg) : Prop where
  inv : RInv r
  all : r.all = rr.actors
  avail : ∀ a, r.isAvail a = rr.avail a

/-! The reference registry satisfies, in terms of `avail`, the same equations as `use_spec`, `free_spec`,
`deepSlice_isAvail` give for `isAvail`: the representation relation is kept by rewriting both sides. -/

theorem ref_use_spec (rr : RReg) (a : Nat) :
    (rr.use a).2 = rr.avail a ∧ (rr.use a).1.actors = rr.actors ∧
    ∀ x, (rr.use a).1.avail x = (rr.avail x && x != a) := by
  unfold RReg.use
  by_cases hc : rr.avail a = true
  · rw [if_pos hc]
    refine ⟨hc.symm, rfl, fun x => ?_⟩
    show (rr.actors.contains x && !(a :: rr.held).contains x)
      = (rr.actors.contains x && !rr.held.contains x && !(x == a))
    rw [List.contains_cons, Bool.not_or, Bool.and_assoc, Bool.and_comm (!rr.held.contains x)]
  · rw [if_neg hc]
    refine ⟨(Bool.eq_false_iff.mpr hc).symm, rfl, fun x => ?_⟩
    by_cases e : x = a
    · rw [e, Bool.eq_false_iff.mpr hc]; rfl
    · rw [bne_iff_ne.mpr e, Bool.and_true]

theorem ref_free_spec (rr : RReg) (a : Nat) :
    (rr.free a).2 = (rr.actors.contains a && !rr.avail a) ∧ (rr.free a).1.actors = rr.actors ∧
    ∀ x, (rr.free a).1.avail x = (rr.avail x || (x == a && rr.actors.contains a)) := by
  unfold RReg.free
  by_cases hc : (rr.actors.contains a && rr.held.contains a) = true
  · obtain ⟨hA, hH⟩ := Bool.and_eq_true_iff.mp hc
    rw [if_pos hc]
    refine ⟨by rw [RReg.avail, hA, hH]; rfl, rfl, fun x => ?_⟩
    show (rr.actors.contains x && !(rr.held.filter (fun y => y != a)).contains x)
      = (rr.actors.contains x && !rr.held.contains x || _)
    rw [contains_filter, hA, Bool.and_true]
    by_cases e : x = a
    · rw [e, hA, hH, bne_self_eq_false, beq_self_eq_true]; rfl
    · rw [bne_iff_ne.mpr e, beq_eq_false_iff_ne.mpr e, Bool.and_true, Bool.or_false]
  · -- `a` is not both registered and held, so it is offered exactly when it is registered
    have hAv : rr.avail a = rr.actors.contains a := by
      rw [RReg.avail]
      cases hA : rr.actors.contains a
      · rfl
      · have hH : rr.held.contains a = false :=
          Bool.eq_false_iff.mpr fun hH => hc (by rw [hA, hH]; rfl)
        rw [hH]; rfl
    rw [if_neg hc]
    refine ⟨by rw [hAv, Bool.and_not_self], rfl, fun x => ?_⟩
    show rr.avail x = _
    by_cases e : x = a
    · rw [e, hAv, beq_self_eq_true, Bool.true_and, Bool.or_self]
    · rw [beq_eq_false_iff_ne.mpr e, Bool.false_and, Bool.or_false]

theorem ref_slice_spec (rr : RReg) (keep : Nat → Bool) (x : Nat) :
    (rr.slice keep).avail x = (rr.avail x && keep x) := by
  show ((rr.actors.filter keep).contains x && !(rr.held.filter keep).contains x)
    = (rr.actors.contains x && !rr.held.contains x && keep x)
  rw [contains_filter, contains_filter]
  cases rr.actors.contains x <;> cases rr.held.contains x <;> cases keep x <;> rfl

theorem rsim_new (f : Fleet) : RSim (Registry.new f) (RReg.new f.length) := by
  refine ⟨new_inv f, rfl, fun a => ?_⟩
  rw [new_isAvail f a]
  show _ = ((List.range f.length).contains a && !([] : List Nat).contains a)
  rw [List.contains_nil, Bool.not_false, Bool.and_true, Bool.eq_iff_iff, decide_eq_true_iff,
    List.contains_iff_mem, List.mem_range]

theorem rsim_use {r rr} (h : RSim r rr) (a : Nat) :
    (r.useActor a).2 = (rr.use a).2 ∧ RSim (r.useActor a).1 (rr.use a).1 := by
  obtain ⟨rres, ract, rav⟩ := ref_use_spec rr a
  exact ⟨by rw [useActor_snd h.inv, rres, h.avail], useActor_inv h.inv a, by rw [useActor_all, ract, h.all],
    fun x => by rw [useActor_isAvail h.inv, rav, h.avail]⟩

theorem rsim_free {r rr} (h : RSim r rr) (a : Nat) :
    (r.freeActor a).2 = (rr.free a).2 ∧ RSim (r.freeActor a).1 (rr.free a).1 := by
  obtain ⟨rres, ract, rav⟩ := ref_free_spec rr a
  exact ⟨by rw [freeActor_snd h.inv, rres, h.avail, h.all], freeActor_inv h.inv a,
    by rw [freeActor_all, ract, h.all], fun x => by rw [freeActor_isAvail h.inv, rav, h.avail, h.all]⟩

theorem rsim_slice {r rr} (h : RSim r rr) (keep : Nat → Bool) :
    RSim (r.deepSlice keep) (rr.slice keep) := by
  exact ⟨deepSlice_inv h.inv keep, congrArg (List.filter keep) h.all,
    fun x => by rw [deepSlice_isAvail, ref_slice_spec, h.avail]⟩

theorem ref_mem_availableList {rr : RReg} {a : Nat} : a ∈ rr.availableList ↔ rr.avail a = true := by
  rw [RReg.availableList, RReg.avail, List.mem_filter, Bool.and_eq_true, List.contains_iff_mem]

theorem mem_availableList {r : Registry} {x : Nat} : x ∈ r.availableList ↔ r.isAvail x = true := by
  rw [isAvail_iff]
  unfold Registry.availableList
  rw [List.mem_flatMap]
  constructor
  · rintro ⟨⟨g, s⟩, hp, hx⟩; exact ⟨g, s, hp, hx⟩
  · rintro ⟨g, s, hp, hx⟩; exact ⟨(g, s), hp, hx⟩

theorem nodup_availableList {r : Registry} (h : RInv r) : r.availableList.Nodup := by
  refine List.pairwise_flatMap.mpr ⟨fun p hp => h.sets p.1 p.2 hp, ?_⟩
  refine (List.pairwise_map.mp h.keys).imp_of_mem fun {p q} hp hq hne x hx y hy e => ?_
  exact hne (Option.some.inj ((h.av p.1 p.2 x hp hx).symm.trans (e ▸ h.av q.1 q.2 y hq hy)))

/-- the enumeration order of the hash containers is not modelled: both observations sort -/
theorem observe_of_rsim {r rr} (h : RSim r rr) (isCtx : Bool) :
    r.observe isCtx = Obs.reg isCtx rr.actors (sortNat rr.availableList) := by
  unfold Registry.observe
  rw [h.all]
  congr 1
  refine sortNat_eq_of_perm ((List.perm_ext_iff_of_nodup (nodup_availableList h.inv) ?_).mpr fun a => ?_)
  · rw [RReg.availableList, ← h.all]; exact h.inv.all.filter _
  · rw [mem_availableList, h.avail a, ref_mem_availableList]

theorem mem_group_iff {f r} (hf : FInv f r) (h : RInv r) {g : Nat} {s : List Nat} (hp : (g, s) ∈ r.available)
    {b : Nat} (hb : r.isAvail b = true) : b ∈ s ↔ f[b]? = some g := by
  refine ⟨fun hbs => hf b g (h.av g s b hp hbs), fun hfb => ?_⟩
  obtain ⟨g', s', hp', hb'⟩ := isAvail_iff.mp hb
  cases Option.some.inj ((hf b g' (h.av g' s' b hp' hb')).symm.trans hfb)
  cases Option.some.inj ((mem_lookup_of_nodup h.keys hp').symm.trans (mem_lookup_of_nodup h.keys hp))
  exact hb'

theorem nextOk_of_ref {f r rr} (hs : RSim r rr) (hf : FInv f r) (picks : List Nat)
    (h : rr.nextOk f picks = true) : r.nextOk picks = true := by
  unfold RReg.nextOk at h
  rw [Bool.and_eq_true, List.all_eq_true, List.all_eq_true] at h
  obtain ⟨h1, h2⟩ := h
  have hpicks : ∀ b ∈ picks, r.isAvail b = true := fun b hb => by rw [hs.avail b]; exact h1 b hb
  unfold Registry.nextOk
  rw [Bool.and_eq_true, List.all_eq_true, List.all_eq_true]
  refine ⟨?_, hpicks⟩
  rintro ⟨g, s⟩ hp
  cases hse : s with
  | nil => simp
  | cons a l =>
    have has : a ∈ s := hse ▸ List.mem_cons_self
    have hav : r.isAvail a = true := isAvail_iff.mpr ⟨g, s, hp, has⟩
    have hal : a ∈ rr.availableList := ref_mem_availableList.mpr ((hs.avail a).symm.trans hav)
    have hcount := h2 a hal
    have hfa : f[a]? = some g := hf a g (hs.inv.av g s a hp has)
    have hfilter : picks.filter (fun b => s.contains b) = picks.filter (fun b => f[b]? == f[a]?) :=
      List.filter_congr fun b hb => by
        rw [Bool.eq_iff_iff, List.contains_iff_mem, mem_group_iff hf hs.inv hp (hpicks b hb), hfa, beq_iff_eq]
    rw [← hse]
    simp only [hfilter]
    rw [hse]
    exact hcount

structure RcSim (c : RouteCtx) (rc : RRoute) : Prop where
  kind : c.kind = rc.kind
  actor : c.actor = rc.actor
  tour : Sim c.tour rc.tour
  stale : c.stale = rc.stale
  st : c.st = rc.st
  cnt : c.cnt = rc.cnt

theorem rcsim_proto (a : Nat) (c : Bool) : RcSim (RouteCtx.proto a c) (RRoute.fresh a c) := by
  refine ⟨rfl, rfl, sim_new c, rfl, rfl, ?_⟩
  show some (Tour.new c).jobActivityCount = some 0
  rw [jac_of_sim (sim_new c)]; rfl

theorem observe_of_rcsim {c rc} (h : RcSim c rc) (n : Nat) : c.observe n = rc.observe n := by
  unfold RouteCtx.observe RRoute.observe
  rw [h.kind, h.actor, observe_of_sim h.tour n, h.stale, h.st, h.cnt]

structure CInv (closedOf : Nat → Bool) (x : RegistryCtx) : Prop where
  reg : RInv x.registry
  idx : ∀ a, x.index.lookup a = if a ∈ x.registry.all then some (RouteCtx.proto a (closedOf a)) else none

theorem cinv_new (closedOf : Nat → Bool) {g : Registry} (h : RInv g) : CInv closedOf (RegistryCtx.new closedOf g) := by
  refine ⟨h, ?_⟩
  intro a
  exact lookup_map_key g.all (fun a => RouteCtx.proto a (closedOf a)) a

theorem cinv_setRegistry {closedOf : Nat → Bool} {x : RegistryCtx} (h : CInv closedOf x) {g : Registry}
    (hg : RInv g) (hall : g.all = x.registry.all) : CInv closedOf { x with registry := g } := by
  refine ⟨hg, fun a => (h.idx a).trans ?_⟩
  show _ = if a ∈ g.all then _ else _
  rw [hall]

theorem getRoute_spec {closedOf : Nat → Bool} {x : RegistryCtx} (h : CInv closedOf x) (a : Nat) :
    CInv closedOf (x.getRoute a).1 ∧
    (x.getRoute a).2 = if x.registry.isAvail a then some (RouteCtx.proto a (closedOf a)) else none := by
  refine ⟨cinv_setRegistry h (useActor_inv h.reg a) (useActor_all _ a), ?_⟩
  show (if (x.registry.useActor a).2 = true then x.index.lookup a else none) = _
  rw [useActor_snd h.reg]
  split
  next hv => rw [h.idx a, if_pos (mem_all_of_isAvail h.reg hv)]
  next => rfl

theorem useRoute_spec {closedOf : Nat → Bool} {x : RegistryCtx} (h : CInv closedOf x) (c : RouteCtx) :
    CInv closedOf (x.useRoute c).1 :=
  cinv_setRegistry h (useActor_inv h.reg c.actor) (useActor_all _ c.actor)

theorem freeRoute_spec {closedOf : Nat → Bool} {x : RegistryCtx} (h : CInv closedOf x) (c : RouteCtx) :
    CInv closedOf (x.freeRoute c).1 :=
  cinv_setRegistry h (freeActor_inv h.reg c.actor) (freeActor_all _ c.actor)

theorem ctxSlice_spec {closedOf : Nat → Bool} {x : RegistryCtx} (h : CInv closedOf x) (keep : Nat → Bool) :
    CInv closedOf (x.deepSlice keep) := by
  refine ⟨deepSlice_inv h.reg keep, fun b => ?_⟩
  show (x.index.filter (fun p => keep p.1)).lookup b = if b ∈ x.registry.all.filter keep then _ else _
  rw [lookup_filter_key, h.idx b]
  by_cases hm : b ∈ x.registry.all <;> cases hk : keep b <;> simp [List.mem_filter, hm, hk]

/-- `next_route` never hits the `index[&actor]` panic for actors the registry offers -/
theorem nextRoute_total {closedOf : Nat → Bool} {x : RegistryCtx} (h : CInv closedOf x) (picks : List Nat)
    (hp : ∀ a ∈ picks, x.registry.isAvail a = true) :
    x.nextRoute picks = some (picks.map (fun a => (a, RouteCtx.proto a (closedOf a)))) := by
  unfold RegistryCtx.nextRoute
  induction picks with
  | nil => rfl
  | cons a l ih =>
    rw [List.mapM_cons, ih (fun b hb => hp b (List.mem_cons_of_mem _ hb))]
    rw [h.idx a, if_pos (mem_all_of_isAvail h.reg (hp a (by simp)))]
    rfl

end C14
