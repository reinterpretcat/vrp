import VrpProofs.C14.Lists
/-!
# C14 — association lists (the model of the hash maps of the registry and of the handle store)
-/

namespace C14

theorem lookup_cons_ite {β} (k k' : Nat) (v' : β) (l : List (Nat × β)) :
    ((k', v') :: l).lookup k = if k = k' then some v' else l.lookup k := by
  rw [List.lookup_cons]
  by_cases e : k = k'
  · rw [if_pos e, beq_iff_eq.mpr e]
  · rw [if_neg e, beq_eq_false_iff_ne.mpr e]

theorem lookup_mem {β} {l : List (Nat × β)} {k : Nat} {v : β} (h : l.lookup k = some v) : (k, v) ∈ l := by
  obtain ⟨l₁, l₂, rfl, -⟩ := List.lookup_eq_some_iff.mp h
  exact List.mem_append_right _ List.mem_cons_self

theorem not_mem_of_lookup_none {β} {l : List (Nat × β)} {g : Nat} (h : l.lookup g = none) (s : β) :
    (g, s) ∉ l :=
  fun hm => bne_iff_ne.mp (List.lookup_eq_none_iff.mp h _ hm) rfl

theorem mem_lookup_of_nodup {β} {l : List (Nat × β)} {k : Nat} {v : β}
    (hn : (l.map Prod.fst).Nodup) (h : (k, v) ∈ l) : l.lookup k = some v := by
  induction l with
  | nil => cases h
  | cons p l ih =>
    obtain ⟨k', v'⟩ := p
    rw [List.map_cons, List.nodup_cons] at hn
    rw [lookup_cons_ite]
    rcases List.mem_cons.mp h with e | h'
    · cases e; exact if_pos rfl
    · have hk : k ≠ k' := by
        rintro rfl
        exact hn.1 (List.mem_map.mpr ⟨(k, v), h', rfl⟩)
      rw [if_neg hk, ih hn.2 h']

theorem lookup_map_val {β γ} (f : Nat → β → γ) (l : List (Nat × β)) (g : Nat) :
    (l.map (fun p => (p.1, f p.1 p.2))).lookup g = (l.lookup g).map (f g) := by
  induction l with
  | nil => rfl
  | cons p l ih =>
    rw [List.map_cons, lookup_cons_ite, lookup_cons_ite, ih]
    split
    next e => rw [e]; rfl
    next => rfl

theorem mem_map_val {β γ} (f : Nat → β → γ) {l : List (Nat × β)} {g : Nat} {s : γ} :
    (g, s) ∈ l.map (fun p => (p.1, f p.1 p.2)) ↔ ∃ s0, (g, s0) ∈ l ∧ s = f g s0 := by
  rw [List.mem_map]
  constructor
  · rintro ⟨⟨g', s0⟩, hp, e⟩
    cases e
    exact ⟨s0, hp, rfl⟩
  · rintro ⟨s0, hp, rfl⟩
    exact ⟨(g, s0), hp, rfl⟩

theorem lookup_filter_key {β} (l : List (Nat × β)) (keep : Nat → Bool) (a : Nat) :
    (l.filter (fun p => keep p.1)).lookup a = if keep a then l.lookup a else none := by
  induction l with
  | nil => exact (ite_self _).symm
  | cons p l ih =>
    obtain ⟨k, v⟩ := p
    rw [List.filter_cons, lookup_cons_ite]
    by_cases e : a = k
    · subst e
      by_cases hk : keep a = true
      · rw [if_pos hk, if_pos hk, lookup_cons_ite, if_pos rfl, if_pos rfl]
      · rw [if_neg hk, if_neg hk, ih, if_neg hk]
    · rw [if_neg e, ← ih]
      by_cases hk : keep k = true
      · rw [if_pos hk, lookup_cons_ite, if_neg e]
      · rw [if_neg hk]

theorem lookup_map_key {β} (l : List Nat) (f : Nat → β) (a : Nat) :
    (l.map (fun x => (x, f x))).lookup a = if a ∈ l then some (f a) else none := by
  induction l with
  | nil => rfl
  | cons k l ih =>
    rw [List.map_cons, lookup_cons_ite, ih]
    by_cases e : a = k
    · rw [if_pos e, if_pos (List.mem_cons.mpr (Or.inl e)), e]
    · rw [if_neg e]
      by_cases hm : a ∈ l
      · rw [if_pos hm, if_pos (List.mem_cons_of_mem k hm)]
      · rw [if_neg hm, if_neg (fun h => hm ((List.mem_cons.mp h).resolve_left e))]

theorem assocUpdate_eq_map {β} (l : List (Nat × β)) (k : Nat) (v : β) :
    assocUpdate l k v = l.map (fun p => (p.1, if p.1 = k then v else p.2)) := by
  refine List.map_congr_left (fun p _ => ?_)
  by_cases e : p.1 = k
  · rw [if_pos e, if_pos (beq_iff_eq.mpr e)]
  · rw [if_neg e, if_neg (fun h => e (beq_iff_eq.mp h))]

theorem map_fst_assocUpdate {β} (l : List (Nat × β)) (k : Nat) (v : β) :
    (assocUpdate l k v).map Prod.fst = l.map Prod.fst := by
  rw [assocUpdate_eq_map, List.map_map]
  rfl

theorem mem_assocUpdate {β} {l : List (Nat × β)} {k : Nat} {v : β} {g : Nat} {s : β} :
    (g, s) ∈ assocUpdate l k v ↔ ∃ s0, (g, s0) ∈ l ∧ s = if g = k then v else s0 := by
  rw [assocUpdate_eq_map]
  exact mem_map_val (fun g s0 => if g = k then v else s0)

theorem lookup_assocUpdate {β} (l : List (Nat × β)) (k : Nat) (v : β) (g : Nat) :
    (assocUpdate l k v).lookup g = (l.lookup g).map (fun s0 => if g = k then v else s0) := by
  rw [assocUpdate_eq_map]
  exact lookup_map_val (fun g s0 => if g = k then v else s0) l g

end C14
