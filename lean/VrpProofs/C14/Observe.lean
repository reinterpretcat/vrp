import VrpProofs.C14.Tour
/-!
# C14 — every observer of the code-shaped tour equals the reference observer
-/

namespace C14

theorem windows2_cons (a b : Act) (l : List Act) : windows 2 (a :: b :: l) = [a, b] :: windows 2 (b :: l) := by
  rw [windows]; exact if_neg (Nat.not_lt.mpr (Nat.le_add_left 2 l.length))

theorem windows2_zipIdx (A : List Act) (k : Nat) :
    (windows 2 A).zipIdx k = (List.range (A.length - 1)).map (fun i => ((A.drop i).take 2, i + k)) := by
  induction A generalizing k with
  | nil => rfl
  | cons a A ih =>
    cases A with
    | nil => rfl
    | cons b l =>
      rw [windows2_cons, List.zipIdx_cons, ih (k + 1)]
      show _ = (List.range (l.length + 1)).map _
      rw [List.range_succ_eq_map, List.map_cons, List.map_map, Nat.zero_add]
      refine congrArg _ (List.map_congr_left fun i _ => ?_)
      show (_, i + (k + 1)) = (_, i + 1 + k)
      rw [Nat.add_right_comm, Nat.add_assoc]
      rfl

/-- `Tour::legs` (window size 1 or 2, chained open-end leg) is "consecutive pairs + the open end" whenever
    the tour has its start and, if closed, at least two activities -/
theorem legs_eq_spec (t : Tour) (h1 : t.acts ≠ []) (h2 : t.closed = true → 2 ≤ t.acts.length) :
    t.legs = specLegs t.closed t.acts := by
  obtain ⟨acts, jobs, closed⟩ := t
  match acts, h1, h2 with
  | [], h1, _ => exact absurd rfl h1
  | [a], _, h2 =>
    -- a single activity: an open tour without jobs
    cases closed
    · rfl
    · exact absurd (h2 rfl) (Nat.not_succ_le_self 1)
  | a :: b :: l, _, _ =>
    show (if (!closed && decide (l.length + 1 + 1 - 1 > 0)) = true
        then (windows 2 (a :: b :: l)).zipIdx ++ [((a :: b :: l).drop (l.length + 1 + 1 - 1), l.length + 1 + 1 - 1)]
        else (windows 2 (a :: b :: l)).zipIdx) = _
    rw [windows2_zipIdx, decide_eq_true (show l.length + 1 + 1 - 1 > 0 from Nat.succ_pos l.length), Bool.and_true]
    -- both sides are the same `map` over `range (l.length + 1)`, up to `i + 0 = i` under the lambda
    cases closed
    · rfl
    · exact (List.append_nil _).symm

theorem legs_of_sim {t r} (h : Sim t r) : t.legs = specLegs r.closed r.render := by
  rw [legs_eq_spec t, h.acts, h.closed]
  · rw [h.acts, render_eq]; simp
  · intro hc
    rw [h.acts, length_render, ← h.closed, hc]; simp

theorem jobs_perm_of_sim {t r} (h : Sim t r) : t.jobs.Perm r.jobSet :=
  (List.perm_ext_iff_of_nodup h.nodup (nodup_dedup _)).mpr fun a => (h.mem a).trans mem_dedup.symm

theorem jobCount_of_sim {t r} (h : Sim t r) : t.jobCount = r.jobSet.length :=
  (jobs_perm_of_sim h).length_eq

/-- the order of the job `HashSet` is not modelled: both observations sort -/
theorem sortedJobs_of_sim {t r} (h : Sim t r) : sortNat t.jobs = sortNat r.jobSet :=
  sortNat_eq_of_perm (jobs_perm_of_sim h)

theorem hasJobs_of_sim {t r} (h : Sim t r) : (!t.jobs.isEmpty) = !r.mid.isEmpty := by
  congr 1
  rw [Bool.eq_iff_iff, List.isEmpty_iff, List.isEmpty_iff, List.eq_nil_iff_forall_not_mem,
    ← List.map_eq_nil_iff (f := Prod.fst), List.eq_nil_iff_forall_not_mem]
  exact forall_congr' fun j => not_congr (h.mem j)

theorem head_of_sim {t r} (h : Sim t r) : t.acts.head? = some Act.start := by
  rw [h.acts, render_eq]; rfl

theorem last_of_sim {t r} (h : Sim t r) :
    t.acts.getLast? = (if r.closed then some Act.finish else
      match r.mid.getLast? with
      | some p => some (Act.job p.1 p.2)
      | none => some Act.start) := by
  rw [h.acts, render_eq, List.getLast?_cons, List.getLast?_append, List.getLast?_map]
  cases hc : r.closed
  · simp only [ends, Bool.false_eq_true, if_false, List.getLast?_nil, Option.none_or]
    cases r.mid.getLast? <;> rfl
  · simp [ends]

theorem endIdx_of_sim {t r} (h : Sim t r) :
    (if t.acts.length = 0 then none else some (t.acts.length - 1))
      = some (r.mid.length + (if r.closed then 1 else 0)) := by
  rw [h.acts, length_render]
  cases r.closed <;> rfl

theorem hasJob_comp (j : Nat) : (Act.hasJob j ∘ jobAct) = (fun p : Nat × Nat => p.1 == j) := by
  funext p; exact hasJob_jobAct j p

theorem index_of_sim {t r} (h : Sim t r) (j : Nat) :
    t.index j = (r.mid.findIdx? (fun p => p.1 == j)).map (· + 1) := by
  unfold Tour.index
  rw [h.acts, render_eq, List.findIdx?_cons]
  have : Act.hasJob j Act.start = false := rfl
  simp only [this, Bool.false_eq_true, if_false]
  have he : (ends r.closed).findIdx? (Act.hasJob j) = none := by cases r.closed <;> rfl
  rw [List.findIdx?_append, he, List.findIdx?_map, hasJob_comp]
  simp

theorem indexLast_of_sim {t r} (h : Sim t r) (j : Nat) :
    t.indexLast j = (r.mid.reverse.findIdx? (fun p => p.1 == j)).map (fun k => r.mid.length - k) := by
  unfold Tour.indexLast
  rw [h.acts, length_render]
  have hrev : r.render.reverse = ((ends r.closed).reverse ++ (r.mid.reverse.map jobAct)) ++ [Act.start] := by
    rw [render_eq, List.reverse_cons, List.reverse_append, List.map_reverse]
  rw [hrev, List.findIdx?_append, List.findIdx?_append, List.findIdx?_map, hasJob_comp]
  have he : (ends r.closed).reverse.findIdx? (Act.hasJob j) = none := by cases r.closed <;> rfl
  have hs : [Act.start].findIdx? (Act.hasJob j) = none := rfl
  rw [he, hs]
  simp only [Option.none_or, Option.map_none, Option.or_none, Option.map_map, List.length_reverse]
  cases hf : r.mid.reverse.findIdx? (fun p => p.1 == j) with
  | none => rfl
  | some k =>
    simp only [Option.map_some, Function.comp, length_ends]
    congr 1
    rw [Nat.add_right_comm, Nat.add_sub_cancel, Nat.add_sub_add_right]

theorem jobActivities_of_sim {t r} (h : Sim t r) (j : Nat) :
    t.jobActivities j = (r.mid.filter (fun p => p.1 == j)).map Prod.snd := by
  unfold Tour.jobActivities
  rw [h.acts, render_eq]
  have hs : ∀ l, List.filter (Act.hasJob j) (Act.start :: l) = List.filter (Act.hasJob j) l := fun l => rfl
  have he : (ends r.closed).filter (Act.hasJob j) = [] := by cases r.closed <;> rfl
  rw [hs, List.filter_append, he, List.append_nil, List.filter_map, hasJob_comp, List.filterMap_map]
  have : (Act.sub? ∘ jobAct) = (some ∘ Prod.snd) := by funext p; rfl
  rw [this, List.filterMap_eq_map]

theorem observe_of_sim {t r} (h : Sim t r) (n : Nat) : t.observe n = r.observe n := by
  unfold Tour.observe RTour.observe
  rw [TourObs.mk.injEq]
  refine ⟨h.acts, sortedJobs_of_sim h, jobCount_of_sim h, jac_of_sim h, total_of_sim h, legs_of_sim h,
    hasJobs_of_sim h, head_of_sim h, last_of_sim h, endIdx_of_sim h, ?_⟩
  apply List.map_congr_left
  intro j _
  rw [index_of_sim h, indexLast_of_sim h, contains_of_sim h, jobActivities_of_sim h]

theorem mapM_jobAct (mid : List (Nat × Nat)) :
    (mid.map jobAct).mapM (fun a => match a with | Act.job j s => some (j, s) | _ => none) = some mid := by
  induction mid with
  | nil => rfl
  | cons p l ih =>
    rw [List.map_cons, List.mapM_cons, ih]
    rfl

theorem parseMid_render (r : RTour) : parseMid r.closed r.render = some r.mid := by
  rw [render_eq]
  unfold parseMid
  cases hc : r.closed
  · simp only [ends, Bool.false_eq_true, if_false, List.append_nil, Bool.false_and]
    exact mapM_jobAct r.mid
  · simp only [ends, if_true, Bool.true_and]
    have h1 : (r.mid.map jobAct ++ [Act.finish]).getLast? = some Act.finish := by simp
    have h2 : (r.mid.map jobAct ++ [Act.finish]).dropLast = r.mid.map jobAct := by simp
    rw [h1, h2]
    simp only [bne_self_eq_false, Bool.false_eq_true, if_false]
    exact mapM_jobAct r.mid

theorem wfObs_ref (n : Nat) (r : RTour) : wfObs n r.closed (r.observe n) = true := by
  unfold wfObs
  have : (r.observe n).acts = r.render := rfl
  rw [this, parseMid_render]
  simp

/-- `wfObs` with the tour's own closed flag; the driver evaluates it with `World.closedOf` of the observed actor -/
theorem wfObs_of_sim {t r} (h : Sim t r) (n : Nat) : wfObs n t.closed (t.observe n) = true := by
  rw [observe_of_sim h, h.closed]; exact wfObs_ref n r

end C14
