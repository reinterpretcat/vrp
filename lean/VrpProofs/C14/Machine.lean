import VrpProofs.C14.RegistryRef
/-!
# C14 — the handle machine of the code-shaped model refines the reference machine
-/

namespace C14

inductive ObjSim (w : World) : Obj → RObj → Prop where
  | rt {c rc} : RcSim c rc → ObjSim w (.rt c) (.rt rc)
  | reg {g rr} : RSim g rr → FInv w.group g → ObjSim w (.reg g) (.reg false rr)
  | rctx {x rr} : RSim x.registry rr → FInv w.group x.registry → CInv w.closedOf x → ObjSim w (.rctx x) (.reg true rr)

def OptSim (w : World) : Option Obj → Option RObj → Prop
  | some o, some ro => ObjSim w o ro
  | none, none => True
  | _, _ => False

def StoreSim (w : World) (st : Store Obj) (rst : Store RObj) : Prop := ∀ h, OptSim w (st.get h) (rst.get h)

inductive WritesSim (w : World) : List (Nat × Option Obj) → List (Nat × Option RObj) → Prop where
  | nil : WritesSim w [] []
  | cons {k v rv ws rws} : OptSim w v rv → WritesSim w ws rws → WritesSim w ((k, v) :: ws) ((k, rv) :: rws)

theorem writes_one {w : World} {k : Nat} {o : Obj} {ro : RObj} (h : ObjSim w o ro) :
    WritesSim w [(k, some o)] [(k, some ro)] :=
  .cons h .nil

theorem get_write1 {β} (st : Store β) (k : Nat) (v : Option β) (h : Nat) :
    (st.write [(k, v)]).get h = if h = k then v else st.get h := by
  have hf : (st.filter (fun p => p.1 != k)).lookup h = if h = k then none else st.lookup h := by
    rw [lookup_filter_key st (fun x => x != k) h]
    by_cases e : h = k
    · rw [if_pos e, e, bne_self_eq_false]; rfl
    · rw [if_neg e, bne_iff_ne.mpr e]; rfl
  cases v with
  | none => exact hf
  | some v =>
    show ((k, v) :: st.filter (fun p => p.1 != k)).lookup h = _
    rw [lookup_cons_ite, hf]
    by_cases e : h = k
    · rw [if_pos e, if_pos e]
    · rw [if_neg e, if_neg e, if_neg e]; rfl

theorem write_get_other {β} (ws : List (Nat × Option β)) (st : Store β) (h : Nat)
    (hn : ∀ x ∈ ws, x.1 ≠ h) : (st.write ws).get h = st.get h := by
  induction ws generalizing st with
  | nil => rfl
  | cons x ws ih =>
    show ((st.write [x]).write ws).get h = _
    rw [ih _ (fun y hy => hn y (List.mem_cons_of_mem _ hy)), get_write1,
      if_neg (fun e => hn x List.mem_cons_self e.symm)]

theorem write_sim {w : World} {ws : List (Nat × Option Obj)} {rws : List (Nat × Option RObj)}
    (hw : WritesSim w ws rws) : ∀ {st : Store Obj} {rst : Store RObj}, StoreSim w st rst →
    StoreSim w (st.write ws) (rst.write rws) := by
  induction hw with
  | nil => exact fun hs => hs
  | @cons k v rv ws rws hv _ ih =>
    intro st rst hs
    show StoreSim w ((st.write [(k, v)]).write ws) ((rst.write [(k, rv)]).write rws)
    refine ih fun h => ?_
    rw [get_write1, get_write1]
    split
    · exact hv
    · exact hs h

theorem observe_of_objsim {w : World} {o ro} (h : ObjSim w o ro) (n : Nat) : o.observe n = ro.observe n := by
  cases h with
  | rt hc => exact observe_of_rcsim hc n
  | reg hr _ => exact observe_of_rsim hr false
  | rctx hr _ _ => exact observe_of_rsim hr true

theorem get_of_sim {w st rst} (hs : StoreSim w st rst) {h : Nat} {ro : RObj} (hr : rst.get h = some ro) :
    ∃ o, st.get h = some o ∧ ObjSim w o ro := by
  have := hs h
  rw [hr] at this
  cases hg : st.get h with
  | none => rw [hg] at this; cases this
  | some o => rw [hg] at this; exact ⟨o, rfl, this⟩

theorem getRc_of_sim {w st rst} (hs : StoreSim w st rst) {h : Nat} {rc : RRoute} (hr : getRRc rst h = some rc) :
    ∃ c, getRc st h = .ok c ∧ RcSim c rc := by
  unfold getRRc at hr
  split at hr
  next rc' hg =>
    obtain ⟨o, ho, hsim⟩ := get_of_sim hs hg
    cases hsim with
    | rt hc =>
      split at hr
      next hk => cases hr; exact ⟨_, by rw [getRc, ho]; exact if_pos (hc.kind.trans hk), hc⟩
      next => cases hr
  next => cases hr

theorem getReg_of_sim {w st rst} (hs : StoreSim w st rst) {h : Nat} {rr : RReg}
    (hr : rst.get h = some (.reg false rr)) :
    ∃ g, st.get h = some (.reg g) ∧ RSim g rr ∧ FInv w.group g := by
  obtain ⟨o, ho, hsim⟩ := get_of_sim hs hr
  cases hsim with
  | reg h1 h2 => exact ⟨_, ho, h1, h2⟩

theorem getCtx_of_sim {w st rst} (hs : StoreSim w st rst) {h : Nat} {rr : RReg}
    (hr : rst.get h = some (.reg true rr)) :
    ∃ x, st.get h = some (.rctx x) ∧ RSim x.registry rr ∧ FInv w.group x.registry ∧ CInv w.closedOf x := by
  obtain ⟨o, ho, hsim⟩ := get_of_sim hs hr
  cases hsim with
  | rctx h1 h2 h3 => exact ⟨_, ho, h1, h2, h3⟩

theorem rcsim_withTour {c rc} (h : RcSim c rc) {t rt} (ht : Sim t rt) : RcSim (c.withTour t) (rc.withTour rt) := by
  refine ⟨h.kind, h.actor, ht, ?_, h.st, h.cnt⟩
  show (if c.kind = Kind.rc then true else c.stale) = (if rc.kind = Kind.rc then true else rc.stale)
  rw [h.kind, h.stale]

/-- The reference effect of a tour operation is a `match` on what the handle holds; when it is `some _`, the
    handle held a route, and the mirror holds a related one that takes related tours to related writes. -/
theorem read_rt {α} {w st rst} (hs : StoreSim w st rst) {h : Nat} {F : RRoute → Option α} {x : α}
    (hr : (match rst.get h with | some (.rt rc) => F rc | _ => none) = some x) :
    ∃ rc c, F rc = some x ∧ getR st h = .ok c ∧ RcSim c rc ∧ ∀ {t rt}, Sim t rt →
      WritesSim w [(h, some (.rt (c.withTour t)))] [(h, some (.rt (rc.withTour rt)))] := by
  split at hr
  next rc hg =>
    obtain ⟨o, ho, hsim⟩ := get_of_sim hs hg
    cases hsim with
    | rt hc => exact ⟨rc, _, hr, by rw [getR, ho], hc, fun ht => writes_one (.rt (rcsim_withTour hc ht))⟩
  next => cases hr

theorem eff_refines {w : World} {st : Store Obj} {rst : Store RObj} (hs : StoreSim w st rst) (op : Op)
    {rws : List (Nat × Option RObj)} {rout : Out}
    (hr : RObj.eff w rst op = some (rws, rout)) (hadm : rout ≠ Out.inadmissible) :
    ∃ ws, Obj.eff w st op = .ok (ws, rout) ∧ WritesSim w ws rws := by
  cases op with
  | newR k dst a =>
    cases hr
    exact ⟨_, rfl, writes_one (.rt ⟨rfl, rfl, sim_new _, rfl, rfl, rfl⟩)⟩
  | copy dst h =>
    obtain ⟨ro, hg, e⟩ := Option.map_eq_some_iff.mp hr
    cases e
    obtain ⟨o, ho, hsim⟩ := get_of_sim hs hg
    exact ⟨[(dst, some o)], by simp only [Obj.eff, ho], writes_one hsim⟩
  | drop h =>
    cases hr
    exact ⟨_, rfl, .cons trivial .nil⟩
  | insAt h j s i =>
    obtain ⟨rc, c, hr, hc, hsim, hw⟩ := read_rt hs hr
    obtain ⟨t', hins, e⟩ := Option.map_eq_some_iff.mp hr
    cases e
    obtain ⟨h1, h2⟩ := sim_insertAt hsim.tour hins
    exact ⟨_, by simp only [Obj.eff, hc, h1, Bool.false_eq_true, if_false], hw h2⟩
  | insLast h j s =>
    obtain ⟨rc, c, hr, hc, hsim, hw⟩ := read_rt hs hr
    cases hr
    obtain ⟨h1, h2⟩ := sim_insertLast hsim.tour j s
    exact ⟨_, by simp only [Obj.eff, hc, h1, Bool.false_eq_true, if_false], hw h2⟩
  | insNoJob h i =>
    obtain ⟨rc, c, hr, hc, hsim, hw⟩ := read_rt hs hr
    cases hr
    exact ⟨_, by simp only [Obj.eff, hc, Tour.insertAtRaw, Act.jobId?, if_true], hw hsim.tour⟩
  | rem h j =>
    obtain ⟨rc, c, hr, hc, hsim, hw⟩ := read_rt hs hr
    cases hr
    obtain ⟨h1, h2⟩ := sim_remove hsim.tour j
    exact ⟨_, by simp only [Obj.eff, hc, h1], hw h2⟩
  | remAt h i =>
    obtain ⟨rc, c, hr, hc, hsim, hw⟩ := read_rt hs hr
    cases hr
    obtain ⟨h1, h2⟩ := sim_removeAt hsim.tour i
    exact ⟨_, by simp only [Obj.eff, hc, h1], hw h2⟩
  | touch h =>
    rcases hg : getRRc rst h with _ | rc <;> simp only [RObj.eff, hg, reduceCtorEq] at hr
    cases hr
    obtain ⟨c, hc, hsim⟩ := getRc_of_sim hs hg
    exact ⟨[(h, some (.rt c.touch))], by simp only [Obj.eff, hc],
      writes_one (.rt ⟨hsim.kind, hsim.actor, hsim.tour, rfl, hsim.st, hsim.cnt⟩)⟩
  | accept h =>
    rcases hg : getRRc rst h with _ | rc <;> simp only [RObj.eff, hg, reduceCtorEq] at hr
    cases hr
    obtain ⟨c, hc, hsim⟩ := getRc_of_sim hs hg
    refine ⟨[(h, some (.rt c.accept))], by simp only [Obj.eff, hc], writes_one (.rt ?_)⟩
    unfold RouteCtx.accept
    rw [hsim.stale]
    split
    · exact ⟨hsim.kind, hsim.actor, hsim.tour, rfl, rfl, congrArg some (jac_of_sim hsim.tour)⟩
    · exact hsim
  | setState h v =>
    rcases hg : getRRc rst h with _ | rc <;> simp only [RObj.eff, hg, reduceCtorEq] at hr
    cases hr
    obtain ⟨c, hc, hsim⟩ := getRc_of_sim hs hg
    exact ⟨[(h, some (.rt { c.touch with st := some v }))], by simp only [Obj.eff, hc],
      writes_one (.rt ⟨hsim.kind, hsim.actor, hsim.tour, rfl, rfl, hsim.cnt⟩)⟩
  | newReg dst =>
    cases hr
    exact ⟨_, rfl, writes_one (.reg (rsim_new _) (finv_new _))⟩
  | newRctx dst =>
    cases hr
    exact ⟨_, rfl, writes_one (.rctx (rsim_new _) (finv_new _) (cinv_new _ (new_inv _)))⟩
  | use h a =>
    rcases hg : rst.get h with _ | (rc | ⟨_ | _, rr⟩) <;> simp only [RObj.eff, hg, reduceCtorEq] at hr
    cases hr
    obtain ⟨g, hm, hsim, hf⟩ := getReg_of_sim hs hg
    obtain ⟨h1, h2⟩ := rsim_use hsim a
    exact ⟨_, by simp only [Obj.eff, hm, h1], writes_one (.reg h2 (finv_use hf a))⟩
  | free h a =>
    rcases hg : rst.get h with _ | (rc | ⟨_ | _, rr⟩) <;> simp only [RObj.eff, hg, reduceCtorEq] at hr
    cases hr
    obtain ⟨g, hm, hsim, hf⟩ := getReg_of_sim hs hg
    obtain ⟨h1, h2⟩ := rsim_free hsim a
    exact ⟨_, by simp only [Obj.eff, hm, h1], writes_one (.reg h2 (finv_free hf a))⟩
  | getRoute h a dst =>
    rcases hg : rst.get h with _ | (rc | ⟨_ | _, rr⟩) <;> simp only [RObj.eff, hg, reduceCtorEq] at hr
    obtain ⟨x, hm, hsim, hf, hc⟩ := getCtx_of_sim hs hg
    obtain ⟨h1, h2⟩ := rsim_use hsim a
    obtain ⟨hc', hres⟩ := getRoute_spec hc a
    have hctx : ObjSim w (.rctx (x.getRoute a).1) (.reg true (rr.use a).1) := .rctx h2 (finv_use hf a) hc'
    rw [← useActor_snd hc.reg, h1] at hres
    cases hu : (rr.use a).2 <;> rw [hu] at hr hres
    · rw [if_neg Bool.false_ne_true] at hres
      cases hr
      exact ⟨[(h, some (.rctx (x.getRoute a).1))], by simp only [Obj.eff, hm, hres], writes_one hctx⟩
    · rw [if_pos rfl] at hres
      cases hr
      exact ⟨[(h, some (.rctx (x.getRoute a).1)), (dst, some (.rt (RouteCtx.proto a (w.closedOf a))))],
        by simp only [Obj.eff, hm, hres], .cons hctx (writes_one (.rt (rcsim_proto a _)))⟩
  | freeRoute h rh =>
    simp only [RObj.eff] at hr
    split at hr
    next rr rc hg hgr =>
      cases hr
      obtain ⟨x, hm, hsim, hf, hc⟩ := getCtx_of_sim hs hg
      obtain ⟨c, hcr, hcs⟩ := getRc_of_sim hs hgr
      obtain ⟨h1, h2⟩ := rsim_free hsim c.actor
      rw [hcs.actor] at h1 h2
      exact ⟨[(h, some (.rctx (x.freeRoute c).1)), (rh, none)],
        by simp only [Obj.eff, hm, hcr, RegistryCtx.freeRoute, hcs.actor, h1],
        .cons (.rctx (hcs.actor ▸ h2) (finv_free hf _) (freeRoute_spec hc c)) (.cons trivial .nil)⟩
    next => cases hr
  | useRoute h rh =>
    simp only [RObj.eff] at hr
    split at hr
    next rr rc hg hgr =>
      cases hr
      obtain ⟨x, hm, hsim, hf, hc⟩ := getCtx_of_sim hs hg
      obtain ⟨c, hcr, hcs⟩ := getRc_of_sim hs hgr
      obtain ⟨h1, h2⟩ := rsim_use hsim c.actor
      rw [hcs.actor] at h1 h2
      exact ⟨[(h, some (.rctx (x.useRoute c).1))],
        by simp only [Obj.eff, hm, hcr, RegistryCtx.useRoute, hcs.actor, h1],
        writes_one (.rctx (hcs.actor ▸ h2) (finv_use hf _) (useRoute_spec hc c))⟩
    next => cases hr
  | next h picks =>
    rcases hg : rst.get h with _ | (rc | ⟨isCtx, rr⟩) <;> simp only [RObj.eff, hg, reduceCtorEq] at hr
    by_cases hok : rr.nextOk w.group picks = true
    · rw [if_pos hok] at hr
      cases hr
      cases isCtx with
      | false =>
        obtain ⟨g, hm, hsim, hf⟩ := getReg_of_sim hs hg
        have := nextOk_of_ref hsim hf picks hok
        exact ⟨[], by simp only [Obj.eff, hm, this, if_true]; rfl, .nil⟩
      | true =>
        obtain ⟨x, hm, hsim, hf, hc⟩ := getCtx_of_sim hs hg
        have hn := nextOk_of_ref hsim hf picks hok
        have hav : ∀ a ∈ picks, x.registry.isAvail a = true :=
          List.all_eq_true.mp (Bool.and_eq_true_iff.mp hn).2
        refine ⟨[], ?_, .nil⟩
        simp only [Obj.eff, hm, hn, if_true, nextRoute_total hc picks hav, List.map_map]
        refine congrArg (fun l => Except.ok ([], Out.protos l)) (List.map_congr_left fun a _ => ?_)
        exact congrArg (Prod.mk a) (observe_of_rcsim (rcsim_proto a _) _)
    · rw [if_neg hok] at hr
      cases hr
      exact absurd rfl hadm
  | slice dst h keep =>
    rcases hg : rst.get h with _ | (rc | ⟨isCtx, rr⟩) <;> simp only [RObj.eff, hg, reduceCtorEq] at hr
    cases hr
    cases isCtx with
    | false =>
      obtain ⟨g, hm, hsim, hf⟩ := getReg_of_sim hs hg
      exact ⟨_, by simp only [Obj.eff, hm], writes_one (.reg (rsim_slice hsim _) (finv_slice hf _))⟩
    | true =>
      obtain ⟨x, hm, hsim, hf, hc⟩ := getCtx_of_sim hs hg
      exact ⟨_, by simp only [Obj.eff, hm],
        writes_one (.rctx (rsim_slice hsim _) (finv_slice hf _) (ctxSlice_spec hc _))⟩

end C14
