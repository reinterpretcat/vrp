import VrpProofs.C19.Map
/-!
# C19 — growth and training on the coordinate layer
-/
namespace C19

theorem growTargets_fresh (net : Net) (c : Coord) : ∀ t ∈ growTargets net c, t ∉ keys net := fun t ht =>
  (find_eq_none_iff net t).mp (Option.isNone_iff_eq_none.mp (List.mem_filter.mp ht).2)

theorem growTargets_nodup (net : Net) (c : Coord) : (growTargets net c).Nodup := by
  refine (nodup_map_of_inj_on (addC c) mainDirs (fun a _ b _ h => ?_) (by decide)).filter _
  rw [addC, addC, Prod.mk.injEq] at h
  exact Prod.ext (Int.add_left_cancel h.1) (Int.add_left_cancel h.2)

theorem growTargets_adjacent (net : Net) (c : Coord) : ∀ t ∈ growTargets net c, ∃ o ∈ mainDirs, t = addC c o := by
  intro t ht
  obtain ⟨o, ho, rfl⟩ := List.mem_map.mp (List.mem_filter.mp ht).1
  exact ⟨o, ho, rfl⟩

theorem isBoundary_iff (net : Net) (c : Coord) : isBoundary net c = true ↔ growTargets net c ≠ [] := by
  rw [isBoundary, List.any_eq_true]
  constructor
  · rintro ⟨o, ho, h⟩
    exact List.ne_nil_of_mem (List.mem_filter.mpr ⟨List.mem_map_of_mem ho, h⟩)
  · intro h
    obtain ⟨t, ht⟩ := List.exists_mem_of_ne_nil _ h
    obtain ⟨o, ho, rfl⟩ := List.mem_map.mp (List.mem_filter.mp ht).1
    exact ⟨o, ho, (List.mem_filter.mp ht).2⟩

theorem length_foldl_netInsert (dim : Nat) (ts : List Coord) (net : Net)
    (hfresh : ∀ t ∈ ts, t ∉ keys net) (hnd : ts.Nodup) :
    (ts.foldl (netInsert dim) net).length = net.length + ts.length := by
  have h := foldl_reinsert_fresh (ts.map fun c => ⟨c, 0, dim⟩) net (List.forall_mem_map.mpr hfresh)
    (by rw [List.map_map]; exact (List.map_id' ts).symm ▸ hnd)
  rw [List.foldl_map] at h
  exact (congrArg List.length h).trans (by
    rw [List.length_append, List.length_map, List.length_reverse, List.length_map, Nat.add_comm])

theorem update_cases (dim : Nat) (net : Net) (h : Hit) (isNew : Bool) :
    update dim net h isNew = net ∨
    ∃ node, find net h.bmu = some node ∧
      update dim net h isNew = (growTargets net node.coord).foldl (netInsert dim) net := by
  unfold update
  split
  · exact .inl rfl
  · next node hnode =>
    split
    · exact .inr ⟨node, hnode, rfl⟩
    · exact .inl rfl

theorem update_no_growth (dim : Nat) (net : Net) (h : Hit) : update dim net h false = net := by
  unfold update
  split
  · rfl
  · rw [Bool.and_false, Bool.and_false]; rfl

theorem update_keeps {P : Net → Prop} (dim : Nat) (hins : ∀ net c, P net → P (netInsert dim net c))
    (net : Net) (h : Hit) (isNew : Bool) (hp : P net) : P (update dim net h isNew) := by
  rcases update_cases dim net h isNew with e | ⟨_, _, e⟩ <;> rw [e]
  · exact hp
  · exact List.foldlRecOn _ _ hp fun n hn c _ => hins n c hn

/-- **growth never touches an existing node**: `insert` is only ever called with absent coordinates -/
theorem update_keeps_nodes (dim : Nat) (net : Net) (h : Hit) (isNew : Bool) (k : Coord) (n : Node)
    (hk : find net k = some n) : find (update dim net h isNew) k = some n := by
  rcases update_cases dim net h isNew with e | ⟨node, _, e⟩ <;> rw [e]
  · exact hk
  · refine (List.foldlRecOn (motive := fun m => find m k = find net k) _ _ rfl fun m hm t ht => ?_).trans hk
    exact (find_insert_other m t k _ fun h =>
      growTargets_fresh net node.coord t ht (h ▸ mem_keys_of_mem (find_some_mem net k n hk))).trans hm

theorem update_length (dim : Nat) (net : Net) (h : Hit) (isNew : Bool) :
    (update dim net h isNew).length = net.length ∨
    ∃ node, find net h.bmu = some node ∧
      (update dim net h isNew).length = net.length + (growTargets net node.coord).length := by
  rcases update_cases dim net h isNew with e | ⟨node, hnode, e⟩ <;> rw [e]
  · exact .inl rfl
  · exact .inr ⟨node, hnode,
      length_foldl_netInsert dim _ net (growTargets_fresh net node.coord) (growTargets_nodup net node.coord)⟩

theorem update_new_keys_adjacent (dim : Nat) (net : Net) (h : Hit) (isNew : Bool) (k : Coord)
    (hk : k ∈ keys (update dim net h isNew)) :
    k ∈ keys net ∨ ∃ node, find net h.bmu = some node ∧ ∃ o ∈ mainDirs, k = addC node.coord o := by
  rcases update_cases dim net h isNew with e | ⟨node, hnode, e⟩ <;> rw [e] at hk
  · exact .inl hk
  · refine List.foldlRecOn (motive := fun m => k ∈ keys m → _) _ (netInsert dim) Or.inl (fun m hm t ht h => ?_) hk
    exact ((mem_keys_insertKV m t k _).mp h).elim
      (fun e => .inr ⟨node, hnode, growTargets_adjacent net node.coord k (e ▸ ht)⟩) hm

theorem keys_modify (net : Net) (c : Coord) (f : Node → Node) : keys (modify net c f) = keys net :=
  keys_map net _ fun e => by split <;> rfl

theorem storeAdd_le (cap : Nat) (n : Node) (kept : Nat) : (storeAdd cap n kept).held ≤ cap :=
  Nat.min_le_left _ _

/-- training changes the map only by inserting fresh empty nodes and by storing into one node: what these two steps keep,
    a whole batch keeps -/
theorem trainBatch_keeps {P : Net → Prop} (cap dim : Nat) (isNew : Bool)
    (hins : ∀ net c, P net → P (netInsert dim net c))
    (hmod : ∀ net c kept, P net → P (modify net c fun n => storeAdd cap n kept))
    (net : Net) (hits : List Hit) (hp : P net) : P (trainBatch cap dim isNew net hits) :=
  List.foldlRecOn hits _ hp fun n hn h _ => hmod _ _ _ (update_keeps dim hins n h isNew hn)

/-- for every sequence of inputs, whatever the float-dependent decisions (the `Hit`s) are -/
theorem wf_trainBatch (cap dim : Nat) (isNew : Bool) (net : Net) (hits : List Hit) (hwf : WF net) :
    WF (trainBatch cap dim isNew net hits) :=
  trainBatch_keeps cap dim isNew (fun n c h => wf_insertKV n c _ h rfl)
    (fun n c kept h => wf_map n _ (fun e => by split <;> exact ⟨rfl, rfl⟩) h) net hits hwf

theorem forall_trainBatch {Q : Coord × Node → Prop} (cap dim : Nat) (isNew : Bool)
    (hnew : ∀ c, Q (c, ⟨c, 0, dim⟩)) (hstore : ∀ e kept, Q e → Q (e.1, storeAdd cap e.2 kept))
    (net : Net) (hits : List Hit) (h : ∀ e ∈ net, Q e) : ∀ e ∈ trainBatch cap dim isNew net hits, Q e :=
  trainBatch_keeps (P := fun n => ∀ e ∈ n, Q e) cap dim isNew
    (fun n c hn e he => (mem_insertKV he).elim (· ▸ hnew c) (hn e))
    (fun n c kept hn => List.forall_mem_map.mpr fun e he => by split; exact hstore e kept (hn e he); exact hn e he)
    net hits h

theorem bounded_trainBatch (cap dim : Nat) (isNew : Bool) (net : Net) (hits : List Hit) (hb : Bounded cap dim net) :
    Bounded cap dim (trainBatch cap dim isNew net hits) :=
  forall_trainBatch cap dim isNew (fun _ => ⟨Nat.zero_le _, rfl⟩) (fun e kept h => ⟨storeAdd_le cap e.2 kept, h.2⟩)
    net hits hb

/-- `isNew = false`: smoothing, re-training after a compaction -/
theorem keys_trainBatch_false (cap dim : Nat) (net : Net) (hits : List Hit) :
    keys (trainBatch cap dim false net hits) = keys net :=
  List.foldlRecOn (motive := fun n => keys n = keys net) hits _ rfl fun n hn h _ => by
    rw [trainStep, keys_modify, update_no_growth, hn]

theorem keys_trainBatch_superset (cap dim : Nat) (isNew : Bool) (net : Net) (hits : List Hit) (k : Coord) (hk : k ∈ keys net) :
    k ∈ keys (trainBatch cap dim isNew net hits) :=
  trainBatch_keeps (P := fun n => k ∈ keys n) cap dim isNew (fun n c h => (mem_keys_insertKV n c k _).mpr (.inr h))
    (fun n c _ h => (keys_modify n c _).symm ▸ h) net hits hk

theorem keys_drainAll (net : Net) : keys (drainAll net) = keys net := keys_map net _ fun _ => rfl

theorem wf_drainAll (net : Net) (hwf : WF net) : WF (drainAll net) := wf_map net _ (fun _ => ⟨rfl, rfl⟩) hwf

theorem keys_smooth (cap dim : Nat) (net : Net) (rounds : List (List Hit)) : keys (smooth cap dim net rounds) = keys net :=
  List.foldlRecOn (motive := fun n => keys n = keys net) rounds _ rfl fun n hn r _ => by
    rw [retrainOnce, keys_trainBatch_false, keys_drainAll, hn]

theorem wf_smooth (cap dim : Nat) (net : Net) (rounds : List (List Hit)) (hwf : WF net) (hb : Bounded cap dim net) :
    WF (smooth cap dim net rounds) ∧ Bounded cap dim (smooth cap dim net rounds) :=
  List.foldlRecOn (motive := fun n => WF n ∧ Bounded cap dim n) rounds _ ⟨hwf, hb⟩ fun n hn _ _ =>
    ⟨wf_trainBatch _ _ _ _ _ (wf_drainAll n hn.1),
     bounded_trainBatch _ _ _ _ _ (List.forall_mem_map.mpr fun e he => ⟨Nat.zero_le _, (hn.2 e he).2⟩)⟩

end C19
