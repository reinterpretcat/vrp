import VrpProofs.C19.Arith
import VrpProofs.C19.Map
/-!
# C19 — `contract_graph` on the coordinate layer
-/
namespace C19

theorem not_isRemoved_iff (xd yd : Int) (c : Coord) :
    isRemoved xd yd c = false ↔ Int.tmod c.1 xd ≠ 0 ∧ Int.tmod c.2 yd ≠ 0 := by
  rw [isRemoved, Bool.or_eq_false_iff, beq_eq_false_iff_ne, beq_eq_false_iff_ne]

theorem shift_injective (sh : (Int × Int) × (Int × Int)) (xd yd : Int) (hx : 0 < xd) (hy : 0 < yd) (a b : Coord)
    (ha : isRemoved xd yd a = false) (hb : isRemoved xd yd b = false)
    (h : shift sh xd yd a = shift sh xd yd b) : a = b := by
  rw [not_isRemoved_iff] at ha hb
  rw [shift_eq, shift_eq, Prod.mk.injEq] at h
  exact Prod.ext (remap1_injective _ _ xd a.1 b.1 hx ha.1 hb.1 h.1) (remap1_injective _ _ yd a.2 b.2 hy ha.2 hb.2 h.2)

/-- the nodes which survive a contraction with steps `(xd, yd)` -/
def survivors (net : Net) (xd yd : Int) : Net := net.filter (fun e => !isRemoved xd yd e.1)

theorem keys_survivors (net : Net) (xd yd : Int) :
    keys (survivors net xd yd) = (keys net).filter (fun c => !isRemoved xd yd c) := by
  unfold keys survivors
  rw [List.filter_map]
  rfl

theorem mem_keys_survivors (net : Net) (xd yd : Int) (c : Coord) (h : c ∈ keys (survivors net xd yd)) :
    isRemoved xd yd c = false := by
  rw [keys_survivors, List.mem_filter, Bool.not_eq_true'] at h
  exact h.2

theorem coords_eq_keys (net : Net) (hwf : WF net) : net.map (·.2.coord) = keys net :=
  List.map_congr_left hwf.keyEq

theorem removed_foldl_eq (net : Net) (hwf : WF net) (xd yd : Int) :
    ((net.map (·.2.coord)).filter (isRemoved xd yd)).foldl remove net = survivors net xd yd := by
  rw [foldl_remove_eq_filter, coords_eq_keys net hwf]
  -- the key of an entry is among the removed keys iff the test removes it
  exact List.filter_congr fun e he => by
    rw [Bool.eq_iff_iff, decide_eq_true_iff, List.mem_filter, and_iff_right (mem_keys_of_mem he), Bool.not_eq_true,
      Bool.not_eq_true']

theorem survivors_length (net : Net) (hwf : WF net) (xd yd : Int) :
    net.length - ((net.map (·.2.coord)).filter (isRemoved xd yd)).length = (survivors net xd yd).length := by
  -- as many coordinates are removed as entries fail the test; those and the survivors make up the map
  rw [coords_eq_keys net hwf, keys, List.filter_map, List.length_map]
  apply Nat.sub_eq_of_eq_add
  rw [List.length_eq_countP_add_countP (fun e => isRemoved xd yd e.1), List.countP_eq_length_filter,
    List.countP_eq_length_filter, Nat.add_comm]
  exact congrArg (· + _) (congrArg List.length (List.filter_congr fun e _ => by rw [decide_not, Bool.decide_eq_true]))

theorem decimation_eq (sh : (Int × Int) × (Int × Int)) (dmin dmax : Int) :
    decimation sh dmin dmax =
      if sh.1.2 - sh.1.1 > sh.2.2 - sh.2.1 then (dmin, dmax)
      else if sh.1.2 - sh.1.1 < sh.2.2 - sh.2.1 then (dmax, dmin) else (dmax, dmax) := rfl

theorem decimation_pos (sh : (Int × Int) × (Int × Int)) (dmin dmax : Int) (hmin : 0 < dmin) (hmax : 0 < dmax) :
    0 < (decimation sh dmin dmax).1 ∧ 0 < (decimation sh dmin dmax).2 := by
  rw [decimation_eq]
  split
  · exact ⟨hmin, hmax⟩
  · split
    · exact ⟨hmax, hmin⟩
    · exact ⟨hmax, hmax⟩

/-- the survivors relabelled: what `contract_graph` leaves when the guard does not stop it. The `.reverse` mirrors the
    `foldl` of `remap`; the statements below see the result only through its length, its entries and its keys up to
    permutation -/
def relabelled (net : Net) (sh : (Int × Int) × (Int × Int)) (xd yd : Int) : Net :=
  ((survivors net xd yd).map
    (fun e => (shift sh xd yd e.1, ({ e.2 with coord := shift sh xd yd e.1 } : Node)))).reverse

theorem length_relabelled (net : Net) (sh : (Int × Int) × (Int × Int)) (xd yd : Int) :
    (relabelled net sh xd yd).length = (survivors net xd yd).length := by
  rw [relabelled, List.length_reverse, List.length_map]

theorem keys_relabelled (net : Net) (sh : (Int × Int) × (Int × Int)) (xd yd : Int) :
    keys (relabelled net sh xd yd) = ((keys (survivors net xd yd)).map (shift sh xd yd)).reverse := by
  unfold relabelled keys
  rw [List.map_reverse, List.map_map, List.map_map]
  rfl

theorem remap_survivors (net : Net) (hwf : WF net) (sh : (Int × Int) × (Int × Int)) (xd yd : Int)
    (hx : 0 < xd) (hy : 0 < yd) :
    remap (survivors net xd yd) (fun c n => { n with coord := shift sh xd yd c }) = relabelled net sh xd yd := by
  rw [remap_of_nodup, relabelled, ← List.map_reverse, ← List.map_reverse, List.map_map]
  · rfl
  · rw [List.map_map]
    show ((survivors net xd yd).map (shift sh xd yd ∘ (·.1))).Nodup
    rw [← List.map_map]
    refine nodup_map_of_inj_on _ (keys (survivors net xd yd)) (fun a ha b hb => ?_) ?_
    · exact shift_injective sh xd yd hx hy a b (mem_keys_survivors net xd yd a ha) (mem_keys_survivors net xd yd b hb)
    · rw [keys_survivors]; exact hwf.nodup.filter _

/-- the steps `contract_graph` uses on this map -/
def steps (net : Net) (dmin dmax : Int) : Int × Int := decimation (shape net) dmin dmax

theorem contract_of_wf (net : Net) (hwf : WF net) (dmin dmax : Int) (guard : Nat) (hmin : 0 < dmin) (hmax : 0 < dmax) :
    contract net dmin dmax guard =
      (if (survivors net (decimation (shape net) dmin dmax).1 (decimation (shape net) dmin dmax).2).length < guard then net
       else relabelled net (shape net) (decimation (shape net) dmin dmax).1 (decimation (shape net) dmin dmax).2) := by
  obtain ⟨hx, hy⟩ := decimation_pos (shape net) dmin dmax hmin hmax
  unfold contract
  dsimp only
  rw [survivors_length net hwf, removed_foldl_eq net hwf, remap_survivors net hwf _ _ _ hx hy]

/-- no surviving node is lost to a coordinate collision -/
theorem compact_keeps_count (net : Net) (hwf : WF net) (dmin dmax : Int) (guard : Nat) (hmin : 0 < dmin) (hmax : 0 < dmax)
    (hgo : ¬ (survivors net (decimation (shape net) dmin dmax).1 (decimation (shape net) dmin dmax).2).length < guard) :
    (contract net dmin dmax guard).length =
      (survivors net (decimation (shape net) dmin dmax).1 (decimation (shape net) dmin dmax).2).length := by
  rw [contract_of_wf net hwf dmin dmax guard hmin hmax, if_neg hgo, length_relabelled]

/-- stated outside `WF` too: there the model's `remap` lets a colliding entry overwrite another, as the `HashMap::extend` in
    `Network::remap` does, and `removed.foldl remove` passes over an absent key where `contract_graph` calls
    `get_mut(coordinate).unwrap()` -/
theorem compact_never_grows (net : Net) (dmin dmax : Int) (guard : Nat) :
    (contract net dmin dmax guard).length ≤ net.length := by
  unfold contract
  dsimp only
  split
  · exact Nat.le_refl _
  · refine Nat.le_trans (length_remap_le _ _) ?_
    rw [foldl_remove_eq_filter]
    exact List.length_filter_le _ _

theorem compact_leaves_ge (net : Net) (hwf : WF net) (dmin dmax : Int) (guard : Nat) (hmin : 0 < dmin) (hmax : 0 < dmax) :
    min guard net.length ≤ (contract net dmin dmax guard).length := by
  rw [contract_of_wf net hwf dmin dmax guard hmin hmax]
  split
  · exact Nat.min_le_right _ _
  · next h => rw [length_relabelled]; exact Nat.le_trans (Nat.min_le_left _ _) (Nat.le_of_not_lt h)

theorem wf_contract (net : Net) (hwf : WF net) (dmin dmax : Int) (guard : Nat) : WF (contract net dmin dmax guard) := by
  unfold contract
  dsimp only
  split
  · exact hwf
  · exact wf_remap _ _

theorem bounded_contract (cap dim : Nat) (net : Net) (hwf : WF net) (hb : Bounded cap dim net)
    (dmin dmax : Int) (guard : Nat) (hmin : 0 < dmin) (hmax : 0 < dmax) :
    Bounded cap dim (contract net dmin dmax guard) := by
  rw [contract_of_wf net hwf dmin dmax guard hmin hmax]
  split
  · exact hb
  · intro e he
    rw [relabelled, List.mem_reverse, List.mem_map] at he
    obtain ⟨e0, he0, rfl⟩ := he
    exact hb e0 (List.mem_filter.mp he0).1

/-! ## the contraction against its specification -/

/-- all coordinates are `i32` values (what the fold of `get_network_shape` silently assumes) -/
def InRange (ks : List Coord) : Prop :=
  ∀ c ∈ ks, i32Min ≤ c.1 ∧ c.1 ≤ i32Max ∧ i32Min ≤ c.2 ∧ c.2 ≤ i32Max

/-- the closure folded by `shape` (definitionally) -/
def shapeStep (s : (Int × Int) × (Int × Int)) (c : Coord) : (Int × Int) × (Int × Int) :=
  ((min s.1.1 c.1, max s.1.2 c.1), (min s.2.1 c.2, max s.2.2 c.2))

theorem foldl_shapeStep (ks : List Coord) (s : (Int × Int) × (Int × Int)) :
    ks.foldl shapeStep s =
      ((listMin (ks.map (·.1)) s.1.1, listMax (ks.map (·.1)) s.1.2),
       (listMin (ks.map (·.2)) s.2.1, listMax (ks.map (·.2)) s.2.2)) := by
  induction ks generalizing s with
  | nil => rfl
  | cons c rest ih => exact ih _

theorem shape_eq_extent (net : Net) (hne : net ≠ []) (hr : InRange (keys net)) : shape net = extent (keys net) := by
  cases net with
  | nil => exact absurd rfl hne
  | cons e rest =>
    obtain ⟨h1, h2, h3, h4⟩ := hr e.1 (List.mem_cons_self ..)
    show (keys rest).foldl shapeStep ((min i32Max e.1.1, max i32Min e.1.1), (min i32Max e.1.2, max i32Min e.1.2)) = _
    rw [foldl_shapeStep, Int.min_eq_right h2, Int.max_eq_right h1, Int.min_eq_right h4, Int.max_eq_right h3]
    rfl

theorem specKeep_eq (xd yd : Nat) (c : Coord) :
    (decide (c.1 % (xd : Int) ≠ 0) && decide (c.2 % (yd : Int) ≠ 0)) = !isRemoved xd yd c := by
  rw [Bool.eq_iff_iff, Bool.and_eq_true, decide_eq_true_iff, decide_eq_true_iff, Bool.not_eq_true', not_isRemoved_iff,
    tmod_ne_zero_iff, tmod_ne_zero_iff]

/-- the specification chooses the same steps as the code (`Nat` there, `Int` here) -/
theorem decimation_natCast (sh : (Int × Int) × (Int × Int)) (dmin dmax : Nat) :
    decimation sh dmin dmax =
      (((if sh.1.2 - sh.1.1 > sh.2.2 - sh.2.1 then dmin else dmax : Nat) : Int),
       ((if sh.2.2 - sh.2.1 > sh.1.2 - sh.1.1 then dmin else dmax : Nat) : Int)) := by
  rw [decimation_eq]
  by_cases h1 : sh.1.2 - sh.1.1 > sh.2.2 - sh.2.1
  · rw [if_pos h1, if_pos h1, if_neg (Int.lt_asymm h1)]
  · by_cases h2 : sh.1.2 - sh.1.1 < sh.2.2 - sh.2.1
    · rw [if_neg h1, if_neg h1, if_pos h2, if_pos h2]
    · rw [if_neg h1, if_neg h1, if_neg h2, if_neg h2]

theorem keys_relabelled_perm_spec (net : Net) (sh : (Int × Int) × (Int × Int)) (xd yd guard : Nat) :
    (keys (if (survivors net xd yd).length < guard then net else relabelled net sh xd yd)).Perm
      (let keep := (keys net).filter fun c => decide (c.1 % (xd : Int) ≠ 0) && decide (c.2 % (yd : Int) ≠ 0)
       if keep.length < guard then keys net
       else keep.map fun c => (specPos c.1 (Int.natAbs sh.1.1) (Int.natAbs sh.1.2) xd,
                               specPos c.2 (Int.natAbs sh.2.1) (Int.natAbs sh.2.2) yd)) := by
  dsimp only
  rw [List.filter_congr fun c _ => specKeep_eq xd yd c, ← keys_survivors, length_keys]
  split
  · exact .refl _
  · rw [keys_relabelled]
    refine (List.reverse_perm _).trans (.of_eq (List.map_congr_left fun c hc => ?_))
    have hnz := (not_isRemoved_iff _ _ _).mp (mem_keys_survivors net xd yd c hc)
    rw [shift_eq, remap1_eq_specPos _ _ _ xd (ne_zero_of_tmod_ne_zero _ _ hnz.1),
      remap1_eq_specPos _ _ _ yd (ne_zero_of_tmod_ne_zero _ _ hnz.2)]

/-- **the model of `contract_graph` meets the specification**: rows/columns at multiples of the step disappear, the others
    are renumbered consecutively from the deleted centre and recentred; nothing happens when fewer than `guard` nodes
    would remain -/
theorem contract_keys_perm_spec (net : Net) (hwf : WF net) (hne : net ≠ []) (hr : InRange (keys net))
    (dmin dmax : Nat) (guard : Nat) (hmin : 0 < dmin) (hmax : 0 < dmax) :
    (keys (contract net dmin dmax guard)).Perm (specContract (keys net) dmin dmax guard) := by
  rw [contract_of_wf net hwf dmin dmax guard (Int.natCast_pos.mpr hmin) (Int.natCast_pos.mpr hmax),
    shape_eq_extent net hne hr, decimation_natCast]
  exact keys_relabelled_perm_spec net _ _ _ guard

end C19
