import VrpModel.C19
/-!
# C19 — the association-list model of the node hash map: lookup, insert, remove, remap
-/
namespace C19

/-- the invariant of the coordinate layer: one entry per coordinate, and every node knows its own coordinate -/
structure WF (net : Net) : Prop where
  nodup : (keys net).Nodup
  keyEq : ∀ e ∈ net, e.2.coord = e.1

/-- capacity and dimension of every node -/
def Bounded (cap dim : Nat) (net : Net) : Prop := ∀ e ∈ net, e.2.held ≤ cap ∧ e.2.wdim = dim

theorem wf_nil : WF [] := ⟨List.nodup_nil, fun _ h => absurd h List.not_mem_nil⟩

theorem nodup_map_of_inj_on {α β : Type} (f : α → β) (l : List α)
    (hinj : ∀ a ∈ l, ∀ b ∈ l, f a = f b → a = b) (hnd : l.Nodup) : (l.map f).Nodup :=
  List.pairwise_map.mpr (hnd.imp_of_mem fun ha hb hne heq => hne (hinj _ ha _ hb heq))

theorem keys_cons (e : Coord × Node) (rest : Net) : keys (e :: rest) = e.1 :: keys rest := rfl

theorem length_keys (net : Net) : (keys net).length = net.length := List.length_map _

theorem mem_keys_of_mem {net : Net} {e : Coord × Node} (h : e ∈ net) : e.1 ∈ keys net := List.mem_map_of_mem h

/-- `get_mut`, `drain` and `resize` change every entry in place and keep its key -/
theorem keys_map (net : Net) (g : Coord × Node → Coord × Node) (hg : ∀ e, (g e).1 = e.1) : keys (net.map g) = keys net := by
  rw [keys, List.map_map]
  exact List.map_congr_left fun e _ => hg e

theorem wf_map (net : Net) (g : Coord × Node → Coord × Node) (hg : ∀ e, (g e).1 = e.1 ∧ (g e).2.coord = e.2.coord)
    (hwf : WF net) : WF (net.map g) := by
  refine ⟨(keys_map net g fun e => (hg e).1) ▸ hwf.nodup, fun e he => ?_⟩
  obtain ⟨e0, he0, rfl⟩ := List.mem_map.mp he
  rw [(hg e0).1, (hg e0).2]
  exact hwf.keyEq e0 he0

theorem find_cons (e : Coord × Node) (rest : Net) (c : Coord) :
    find (e :: rest) c = if e.1 = c then some e.2 else find rest c := rfl

theorem find_eq_none_iff (net : Net) (c : Coord) : find net c = none ↔ c ∉ keys net := by
  induction net with
  | nil => exact ⟨fun _ => List.not_mem_nil, fun _ => rfl⟩
  | cons e rest ih =>
    rw [find_cons, keys_cons, List.mem_cons, not_or]
    split
    · next h => exact ⟨nofun, fun h2 => absurd h.symm h2.1⟩
    · next h => exact ih.trans ⟨fun h2 => ⟨fun h3 => h h3.symm, h2⟩, And.right⟩

theorem find_some_mem (net : Net) (c : Coord) (n : Node) (h : find net c = some n) : (c, n) ∈ net := by
  induction net with
  | nil => cases h
  | cons e rest ih =>
    rw [find_cons] at h
    split at h
    · next hk =>
      cases h
      subst hk
      exact List.mem_cons_self ..
    · exact List.mem_cons_of_mem _ (ih h)

theorem find_of_mem (net : Net) (c : Coord) (n : Node) (hnd : (keys net).Nodup) (h : (c, n) ∈ net) :
    find net c = some n := by
  induction net with
  | nil => cases h
  | cons e rest ih =>
    rw [keys_cons, List.nodup_cons] at hnd
    rw [find_cons]
    rcases List.mem_cons.mp h with rfl | hmem
    · exact if_pos rfl
    · rw [if_neg fun hk : e.1 = c => hnd.1 (hk ▸ mem_keys_of_mem hmem)]
      exact ih hnd.2 hmem

theorem find_exact (net : Net) (hnd : (keys net).Nodup) (c : Coord) (n : Node) :
    find net c = some n ↔ (c, n) ∈ net :=
  ⟨find_some_mem net c n, find_of_mem net c n hnd⟩

theorem find_coord (net : Net) (hwf : WF net) (c : Coord) (n : Node) (h : find net c = some n) : n.coord = c :=
  hwf.keyEq _ (find_some_mem net c n h)

theorem mem_remove (net : Net) (c : Coord) (e : Coord × Node) : e ∈ remove net c ↔ e ∈ net ∧ e.1 ≠ c := by
  rw [remove, List.mem_filter, decide_eq_true_iff]

theorem keys_remove (net : Net) (c : Coord) : keys (remove net c) = (keys net).filter (fun k => decide (k ≠ c)) := by
  unfold keys remove
  rw [List.filter_map]
  rfl

theorem mem_keys_remove (net : Net) (c k : Coord) : k ∈ keys (remove net c) ↔ k ∈ keys net ∧ k ≠ c := by
  rw [keys_remove, List.mem_filter, decide_eq_true_iff]

theorem not_mem_keys_remove (net : Net) (c : Coord) : c ∉ keys (remove net c) :=
  fun h => ((mem_keys_remove net c c).mp h).2 rfl

theorem nodup_remove (net : Net) (c : Coord) (h : (keys net).Nodup) : (keys (remove net c)).Nodup :=
  keys_remove net c ▸ h.filter _

theorem remove_of_not_mem (net : Net) (c : Coord) (h : c ∉ keys net) : remove net c = net :=
  List.filter_eq_self.mpr fun _ he => decide_eq_true fun heq => h (heq ▸ mem_keys_of_mem he)

theorem find_remove_self (net : Net) (c : Coord) : find (remove net c) c = none :=
  (find_eq_none_iff _ _).mpr (not_mem_keys_remove net c)

theorem find_remove_other (net : Net) (c c' : Coord) (h : c' ≠ c) : find (remove net c) c' = find net c' := by
  induction net with
  | nil => rfl
  | cons e rest ih =>
    rw [remove, List.filter_cons, find_cons]
    split
    · rw [find_cons]; exact congrArg _ ih
    · next hk => rw [if_neg fun he : e.1 = c' => hk (decide_eq_true (he ▸ h))]; exact ih

theorem find_insert_self (net : Net) (c : Coord) (n : Node) : find (insertKV net c n) c = some n :=
  if_pos rfl

theorem find_insert_other (net : Net) (c c' : Coord) (n : Node) (h : c' ≠ c) :
    find (insertKV net c n) c' = find net c' :=
  (if_neg (Ne.symm h)).trans (find_remove_other net c c' h)

theorem keys_insertKV (net : Net) (c : Coord) (n : Node) : keys (insertKV net c n) = c :: keys (remove net c) := rfl

theorem mem_keys_insertKV (net : Net) (c k : Coord) (n : Node) :
    k ∈ keys (insertKV net c n) ↔ k = c ∨ k ∈ keys net := by
  rw [keys_insertKV, List.mem_cons, mem_keys_remove]
  exact ⟨Or.imp_right And.left, fun h => (Decidable.em (k = c)).imp_right fun hk => ⟨h.resolve_left hk, hk⟩⟩

theorem mem_insertKV {net : Net} {c : Coord} {n : Node} {e : Coord × Node} (h : e ∈ insertKV net c n) :
    e = (c, n) ∨ e ∈ net :=
  (List.mem_cons.mp h).imp_right fun hm => ((mem_remove net c e).mp hm).1

theorem wf_insertKV (net : Net) (c : Coord) (n : Node) (hwf : WF net) (hn : n.coord = c) : WF (insertKV net c n) := by
  refine ⟨List.nodup_cons.mpr ⟨not_mem_keys_remove net c, nodup_remove net c hwf.nodup⟩, fun e he => ?_⟩
  rcases mem_insertKV he with rfl | hmem
  · exact hn
  · exact hwf.keyEq e hmem

theorem wf_remove (net : Net) (c : Coord) (hwf : WF net) : WF (remove net c) :=
  ⟨nodup_remove net c hwf.nodup, fun e he => hwf.keyEq e ((mem_remove net c e).mp he).1⟩

theorem length_insertKV_le (net : Net) (c : Coord) (n : Node) : (insertKV net c n).length ≤ net.length + 1 :=
  Nat.succ_le_succ (List.length_filter_le _ _)

theorem insertKV_of_not_mem (net : Net) (c : Coord) (n : Node) (h : c ∉ keys net) : insertKV net c n = (c, n) :: net := by
  rw [insertKV, remove_of_not_mem net c h]

/-- the closure folded by `remap` (definitionally): `extend` inserts every node under its own coordinate -/
def reinsert (acc : Net) (n : Node) : Net := insertKV acc n.coord n

theorem wf_remap (net : Net) (f : Coord → Node → Node) : WF (remap net f) :=
  List.foldlRecOn _ reinsert wf_nil fun acc h n _ => wf_insertKV acc n.coord n h rfl

theorem length_foldl_reinsert_le (ns : List Node) (acc : Net) : (ns.foldl reinsert acc).length ≤ acc.length + ns.length := by
  induction ns generalizing acc with
  | nil => exact Nat.le_refl _
  | cons n rest ih =>
    refine Nat.le_trans (ih (reinsert acc n)) ?_
    rw [List.length_cons, Nat.add_comm rest.length, ← Nat.add_assoc]
    exact Nat.add_le_add_right (length_insertKV_le acc n.coord n) _

theorem length_remap_le (net : Net) (f : Coord → Node → Node) : (remap net f).length ≤ net.length :=
  Nat.le_trans (length_foldl_reinsert_le _ []) (by rw [List.length_map, List.length_nil, Nat.zero_add]; exact Nat.le_refl _)

theorem foldl_reinsert_fresh (ns : List Node) (acc : Net)
    (hfresh : ∀ n ∈ ns, n.coord ∉ keys acc) (hnd : (ns.map (·.coord)).Nodup) :
    ns.foldl reinsert acc = (ns.reverse.map (fun n => (n.coord, n))) ++ acc := by
  induction ns generalizing acc with
  | nil => rfl
  | cons n rest ih =>
    rw [List.map_cons, List.nodup_cons] at hnd
    rw [List.foldl_cons, reinsert, insertKV_of_not_mem acc n.coord n (hfresh n (List.mem_cons_self ..)), ih _ _ hnd.2,
      List.reverse_cons, List.map_append, List.append_assoc]
    · rfl
    · intro m hm
      rw [keys_cons, List.mem_cons, not_or]
      exact ⟨fun heq : m.coord = n.coord => hnd.1 (heq ▸ List.mem_map_of_mem hm), hfresh m (List.mem_cons_of_mem _ hm)⟩

theorem remap_of_nodup (net : Net) (f : Coord → Node → Node)
    (hnd : ((net.map (fun e => f e.1 e.2)).map (·.coord)).Nodup) :
    remap net f = ((net.map (fun e => f e.1 e.2)).reverse.map (fun n => (n.coord, n))) :=
  (foldl_reinsert_fresh _ [] (fun _ _ => List.not_mem_nil) hnd).trans (List.append_nil _)

theorem foldl_remove_eq_filter (cs : List Coord) (net : Net) :
    cs.foldl remove net = net.filter (fun e => decide (e.1 ∉ cs)) := by
  induction cs generalizing net with
  | nil => exact (List.filter_eq_self.mpr fun _ _ => decide_eq_true List.not_mem_nil).symm
  | cons c rest ih =>
    rw [List.foldl_cons, ih, remove, List.filter_filter]
    apply List.filter_congr
    intro e _
    rw [← Bool.decide_and]
    exact decide_eq_decide.mpr (by rw [List.mem_cons, not_or]; exact And.comm)

end C19
