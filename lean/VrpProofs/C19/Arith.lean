import VrpModel.C19
/-!
# C19 — arithmetic of the per-axis coordinate shift `v ↦ v + get_offset(v, (mn, mx), d)` of `contract_graph`
-/
namespace C19

theorem pos_step (a b d : Int) (hd : 0 < d) (hab : a < b) (hbm : b % d ≠ 0) : a - a / d < b - b / d := by
  rcases Int.lt_or_eq_of_le (Int.ediv_le_ediv hd (Int.le_of_lt hab)) with hlt | heq
  · have h1 : a < d * (a / d + 1) := Int.mul_comm .. ▸ Int.lt_ediv_add_one_mul_self a hd
    have h2 : d * (b / d) < b := Int.lt_of_sub_pos (Int.emod_def b d ▸
      (Int.emod_pos_of_not_dvd fun h => hbm (Int.emod_eq_zero_of_dvd h)).resolve_left (Int.ne_of_gt hd))
    calc a - a / d ≤ d * (a / d + 1) - a / d - 1 := Int.le_sub_one_of_lt (Int.sub_lt_sub_right h1 _)
      _ = (d - 1) * (a / d + 1) := by rw [Int.sub_mul, Int.one_mul, Int.sub_sub]
      _ ≤ (d - 1) * (b / d) := Int.mul_le_mul_of_nonneg_left hlt (Int.sub_nonneg_of_le hd)
      _ = d * (b / d) - b / d := by rw [Int.sub_mul, Int.one_mul]
      _ < b - b / d := Int.sub_lt_sub_right h2 _
  · rw [heq]; exact Int.sub_lt_sub_right hab _

theorem pos_floor (v d : Int) (hd : 0 < d) (hv : 0 < v) (hm : v % d ≠ 0) : 1 ≤ v - v / d := by
  have h := pos_step 0 v d hd hv hm
  rwa [Int.zero_ediv, Int.sub_zero] at h

/-- Rust's `v % d == 0` (truncating remainder) is divisibility, as is `Int`'s `%` -/
theorem tmod_ne_zero_iff (v d : Int) : Int.tmod v d ≠ 0 ↔ v % d ≠ 0 :=
  not_congr (Int.dvd_iff_tmod_eq_zero.symm.trans Int.dvd_iff_emod_eq_zero)

theorem neg_emod_ne_zero (v d : Int) (h : v % d ≠ 0) : (-v) % d ≠ 0 := fun h2 =>
  h (Int.emod_eq_zero_of_dvd (Int.dvd_neg.mp (Int.dvd_of_emod_eq_zero h2)))

theorem ne_zero_of_tmod_ne_zero (v d : Int) (h : Int.tmod v d ≠ 0) : v ≠ 0 := fun hv =>
  h (by rw [hv, Int.zero_tmod])

/-- the new coordinate on one axis: the model's `v + getOffset v mn mx d` with the extents taken as `l = |mn|`, `r = |mx|` -/
def remap1 (v l r d : Int) : Int := v + (Int.tdiv (-v) d + extra v l r)

theorem shift_eq (sh : (Int × Int) × (Int × Int)) (xd yd : Int) (c : Coord) :
    shift sh xd yd c =
      (remap1 c.1 (Int.natAbs sh.1.1) (Int.natAbs sh.1.2) xd, remap1 c.2 (Int.natAbs sh.2.1) (Int.natAbs sh.2.2) yd) := rfl

/-- so at most one side is pulled towards the centre -/
theorem extra_neg_arm_eq_one_add_pos_arm (l r : Int) : (if r ≤ l then (1 : Int) else 0) = 1 + (if r > l then -1 else 0) := by
  by_cases h : r ≤ l
  · rw [if_pos h, if_neg (Int.not_lt.mpr h)]; rfl
  · rw [if_neg h, if_pos (Int.not_le.mp h)]; rfl

theorem remap1_pos (v l r d : Int) (hv : 0 < v) :
    remap1 v l r d = (v - v / d) + (if r > l then -1 else 0) := by
  unfold remap1 extra
  rw [if_pos hv, Int.neg_tdiv, Int.tdiv_eq_ediv_of_nonneg (Int.le_of_lt hv), ← Int.add_assoc, Int.sub_eq_add_neg]

theorem remap1_neg (v l r d : Int) (hv : v < 0) :
    remap1 v l r d = -((-v) - (-v) / d) + 1 + (if r > l then -1 else 0) := by
  unfold remap1 extra
  rw [if_neg (Int.lt_asymm hv), if_pos hv, extra_neg_arm_eq_one_add_pos_arm, Int.tdiv_eq_ediv_of_nonneg (Int.neg_nonneg_of_nonpos (Int.le_of_lt hv)),
    Int.neg_sub, Int.sub_neg, ← Int.add_assoc, ← Int.add_assoc, Int.add_comm (_ / _)]

theorem remap1_strictMono (l r d a b : Int) (hd : 0 < d)
    (ha : Int.tmod a d ≠ 0) (hb : Int.tmod b d ≠ 0) (hab : a < b) :
    remap1 a l r d < remap1 b l r d := by
  have ha0 := ne_zero_of_tmod_ne_zero a d ha
  have hb0 := ne_zero_of_tmod_ne_zero b d hb
  rw [tmod_ne_zero_iff] at ha hb
  rcases Int.lt_or_lt_of_ne ha0 with han | hap <;> rcases Int.lt_or_lt_of_ne hb0 with hbn | hbp
  · rw [remap1_neg a l r d han, remap1_neg b l r d hbn]
    have := pos_step (-b) (-a) d hd (Int.neg_lt_neg hab) (neg_emod_ne_zero a d ha)
    exact Int.add_lt_add_right (Int.add_lt_add_right (Int.neg_lt_neg this) 1) _
  · rw [remap1_neg a l r d han, remap1_pos b l r d hbp]
    have h1 := pos_floor (-a) d hd (Int.neg_pos_of_neg han) (neg_emod_ne_zero a d ha)
    have h2 := pos_floor b d hd hbp hb
    -- `-(-a - -a / d) + 1 ≤ -1 + 1 = 0 < b - b / d`
    exact Int.add_lt_add_right (Int.lt_of_le_of_lt (Int.add_le_add_right (Int.neg_le_neg h1) 1) h2) _
  · exact absurd (Int.lt_trans hap hab) (Int.lt_asymm hbn)
  · rw [remap1_pos a l r d hap, remap1_pos b l r d hbp]
    exact Int.add_lt_add_right (pos_step a b d hd hab hb) _

theorem remap1_injective (l r d a b : Int) (hd : 0 < d)
    (ha : Int.tmod a d ≠ 0) (hb : Int.tmod b d ≠ 0) (h : remap1 a l r d = remap1 b l r d) : a = b := by
  rcases Int.lt_trichotomy a b with hlt | heq | hgt
  · exact absurd h (Int.ne_of_lt (remap1_strictMono l r d a b hd ha hb hlt))
  · exact heq
  · exact absurd h.symm (Int.ne_of_lt (remap1_strictMono l r d b a hd hb ha hgt))

example : Int.tmod 1 3 ≠ 0 ∧ Int.tmod (-1) 3 ≠ 0 ∧ remap1 1 2 5 3 = 0 ∧ remap1 (-1) 2 5 3 = -1 := by decide +kernel

/-- both `extra` branches firing at once would break injectivity: this is what the side conditions of `extra` prevent -/
example : (1 : Int) + (Int.tdiv (-1) 3 + (-1)) = (-1 : Int) + (Int.tdiv 1 3 + 1) := by decide

theorem survivorsUpTo_succ (n d : Nat) :
    survivorsUpTo (n + 1) d = survivorsUpTo n d + if (n + 1) % d ≠ 0 then 1 else 0 := by
  unfold survivorsUpTo
  rw [List.range_succ, List.filter_append, List.length_append, List.filter_cons, List.filter_nil, apply_ite List.length]
  simp only [decide_eq_true_eq]
  rfl

theorem survivorsUpTo_add_div (v d : Nat) : survivorsUpTo v d + v / d = v := by
  induction v with
  | zero => rw [Nat.zero_div]; rfl
  | succ n ih =>
    rw [survivorsUpTo_succ]
    by_cases h : d ∣ n + 1
    · rw [Nat.succ_div_of_dvd h, if_neg (Decidable.not_not.mpr (Nat.mod_eq_zero_of_dvd h)), Nat.add_zero, ← Nat.add_assoc, ih]
    · rw [Nat.succ_div_of_not_dvd h, if_pos fun hh => h (Nat.dvd_of_mod_eq_zero hh), Nat.add_right_comm, ih]

theorem survivorsUpTo_cast (v : Int) (d : Nat) (hv : 0 ≤ v) :
    (survivorsUpTo v.toNat d : Int) = v - v / (d : Int) := by
  have h := congrArg Int.ofNat (survivorsUpTo_add_div v.toNat d)
  rw [Int.ofNat_eq_natCast, Int.ofNat_eq_natCast, Int.natCast_add, Int.natCast_ediv, Int.toNat_of_nonneg hv] at h
  exact (Int.sub_eq_iff_eq_add.mpr h.symm).symm

/-- **the code's offset arithmetic realises the rank specification** on every column but the (deleted) centre one:
    `v + (-v / d + extra)` = number of surviving columns between the centre and `v`, recentred -/
theorem remap1_eq_specPos (v l r : Int) (d : Nat) (hv : v ≠ 0) :
    remap1 v l r d = specPos v l r d := by
  unfold specPos
  rcases Int.lt_or_lt_of_ne hv with hn | hp
  · rw [remap1_neg v l r d hn, if_neg (Int.lt_asymm hn), if_pos hn,
      survivorsUpTo_cast (-v) d (Int.neg_nonneg_of_nonpos (Int.le_of_lt hn)), Int.add_assoc, extra_neg_arm_eq_one_add_pos_arm]
  · rw [remap1_pos v l r d hp, if_pos hp, survivorsUpTo_cast v d (Int.le_of_lt hp)]
    split <;> rfl

example : specPos 5 2 7 3 = 3 ∧ specPos (-5) 2 7 3 = -4 ∧ specPos 4 7 2 3 = 3 ∧ specPos (-4) 7 2 3 = -2 := by decide

end C19
