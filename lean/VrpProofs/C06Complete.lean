import VrpProofs.C06
import VrpProofs.C06CapVec
/-!
# C06 — whole-scan completeness of `evalJob … .any` for jobs WITH demand

The capacity half of completeness rests on three facts: the vector test on the cached maxima refuses nothing the
step-by-step load profile accepts; the only "fail and stop" verdict of the capacity part (static delivery against
`max_past`) cannot fire at a leg before an admissible one; the route-level pre-check lets the job through.
-/

namespace C06Complete
open Route C06 C06Cap

theorem runMax1_mono (m : Int) (ls : List Int) (i p : Nat) (hip : i ≤ p) (hp : p < ls.length) :
    (runMax1 m ls).getD i 0 ≤ (runMax1 m ls).getD p 0 := runMax1_le_of_le m ls i p hip hp

theorem caches_fit1 (cap : Int) (ls : List Int) (i : Nat) (hi : i < ls.length) (hok : ∀ l ∈ ls, l ≤ cap)
    (hcap0 : 0 ≤ cap) :
    (runMax1 0 ls).getD i 0 ≤ cap ∧ (maxFuture1 ls).getD i 0 ≤ cap ∧ ls.getD i 0 ≤ cap := by
  refine ⟨?_, ?_, ?_⟩
  · rcases runMax1_attained 0 ls i hi with h | h
    · omega
    · exact hok _ (List.mem_of_mem_take h)
  · exact hok _ (List.mem_of_mem_drop (maxFuture1_attained ls i hi))
  · exact (getD_eq_or_mem ls i 0).elim (fun e => Int.le_trans (Int.le_of_eq e) hcap0) (hok _)

theorem cap_nonneg1 (cap : Int) (ds : List Dem1) (hok : capOk1 cap ds) (hpos : ∀ l ∈ loads1 ds, 0 ≤ l) : 0 ≤ cap := by
  have h1 := hok (startLoad1 ds) (by simp [loads1])
  have h2 := hpos (startLoad1 ds) (by simp [loads1])
  omega

/-- the arrival activity of a closed tour: a zero demand appended to the tour (it repeats the last load) -/
def ext (b : Bool) (xs : List Dem1) : List Dem1 := xs ++ (if b then [⟨0, 0, 0, 0⟩] else [])

theorem loads1_snoc_zero (xs : List Dem1) :
    loads1 (xs ++ [⟨0, 0, 0, 0⟩]) = loads1 xs ++ [startLoad1 xs + total xs] := by
  have hs : startLoad1 (xs ++ [⟨0, 0, 0, 0⟩]) = startLoad1 xs := by
    simp [startLoad1]
  unfold loads1
  rw [hs, after1_append]
  simp [after1, Dem1.change]

theorem mem_loads1_ext (b : Bool) (xs : List Dem1) (l : Int) : l ∈ loads1 (ext b xs) ↔ l ∈ loads1 xs := by
  cases b with
  | false => simp [ext]
  | true =>
    simp only [ext, if_true]
    rw [loads1_snoc_zero, List.mem_append, List.mem_singleton]
    constructor
    · rintro (h | rfl)
      · exact h
      · exact cur_mem _ _
    · intro h; exact Or.inl h

theorem insertAt1_ext (b : Bool) (xs : List Dem1) (i : Nat) (x : Dem1) (hi : i ≤ xs.length) :
    insertAt1 (ext b xs) i x = ext b (insertAt1 xs i x) := by
  unfold insertAt1 ext
  rw [List.take_append_of_le_length hi, List.drop_append_of_le_length hi]
  simp [List.append_assoc]

theorem capOk1_ext (cap : Int) (b : Bool) (xs : List Dem1) : capOk1 cap (ext b xs) ↔ capOk1 cap xs :=
  forall_congr' fun l => by rw [mem_loads1_ext]

/-- the verdict of `has_demand_violation` at index `i` of a tour with demands `ds` (what `capViolationAt` computes) -/
def hdvAt (cap : List Int) (ds : List Dem) (i : Nat) (x : Dem) (st : Bool) : Option Bool :=
  hasDemandViolation cap
    ((loadCaches (cap.map (fun _ => 0)) ds).2.1.getD i (cap.map (fun _ => 0)))
    ((loadCaches (cap.map (fun _ => 0)) ds).2.2.getD i (cap.map (fun _ => 0)))
    ((loadCaches (cap.map (fun _ => 0)) ds).1.getD i (cap.map (fun _ => 0))) x st

theorem capViolationAt_some (c : Ctx) (i : Nat) (d : Dem) (st : Bool) :
    capViolationAt c i (some d) st = hdvAt c.cap c.allDems i d st := rfl

/-- **the converse of `viol1_of_vec`**: no violation in every component, and cached values that fit the capacity
    in every component (a vector guard such as `vNotEmpty x.sd` may be on although that component of `x.sd` is 0),
    give "no violation" of the vector test. -/
theorem hdv_none_of_components (n : Nat) (cap past fut cur : List Int) (x : Dem) (st : Bool)
    (hc : cap.length = n) (hp : past.length = n) (hf : fut.length = n) (hu : cur.length = n) (hx : WF n x)
    (hfit : ∀ k, k < n → pr k past ≤ pr k cap ∧ pr k fut ≤ pr k cap ∧ pr k cur ≤ pr k cap)
    (h : ∀ k, k < n → viol1 (pr k cap) (pr k past) (pr k fut) (pr k cur) (prD k x) = false) :
    hasDemandViolation cap past fut cur x st = none := by
  have h' := fun k hk => (viol1_false_iff ..).mp (h k hk)
  have hch := change_sd_length n x hx
  refine (hdv_none_iff ..).mpr ⟨clause_off' _ _ ?_, clause_off' _ _ ?_,
    (clause_or _ _ _).mpr ⟨clause_off' _ _ ?_, clause_off' _ _ ?_⟩⟩
  · exact vfits_of_clause n cap past x.sd hc hp hx.2.2.1 fun k hk => ⟨(hfit k hk).1, (h' k hk).1⟩
  · exact vfits_of_clause n cap fut x.sp hc hf hx.1 fun k hk => ⟨(hfit k hk).2.1, (h' k hk).2.1⟩
  · refine vfits_of_clause n cap fut _ hc hf hch fun k hk => ⟨(hfit k hk).2.1, ?_⟩
    rw [pr_change_sd n k x hx hk]
    exact (h' k hk).2.2.imp_right And.left
  · refine vfits_of_clause n cap cur _ hc hu hch fun k hk => ⟨(hfit k hk).2.2, ?_⟩
    rw [pr_change_sd n k x hx hk]
    exact (h' k hk).2.2.imp_right And.right

theorem hdvAt_none (n : Nat) (cap : List Int) (ds : List Dem) (i : Nat) (x : Dem) (st : Bool)
    (hc : cap.length = n) (hw : ∀ d ∈ ds, WF n d) (hx : WF n x) (hi : i ≤ ds.length)
    (hok : ∀ k, k < n → capOk1 (pr k cap) (ds.map (prD k)))
    (hpos : ∀ k, k < n → ∀ l ∈ loads1 (ds.map (prD k)), 0 ≤ l)
    (h : ∀ k, k < n → viol1 (pr k cap) ((runMax1 0 (loads1 (ds.map (prD k)))).getD i 0)
          ((maxFuture1 (loads1 (ds.map (prD k)))).getD i 0) ((loads1 (ds.map (prD k))).getD i 0) (prD k x) = false) :
    hdvAt cap ds i x st = none := by
  unfold hdvAt
  simp only [loadCaches]
  apply hdv_none_of_components n cap _ _ _ x st hc (past_length n cap hc ds hw i) (fut_length n cap hc ds hw i)
    (cur_length n cap hc ds hw i) hx
  · intro k hk
    rw [pr_past n cap hc ds hw i k hk, pr_fut n cap hc ds hw i k hk, pr_cur n cap hc ds hw i k hk]
    apply caches_fit1 (pr k cap) _ i
    · rw [loads1_length, List.length_map]; exact Nat.lt_succ_of_le hi
    · exact hok k hk
    · exact cap_nonneg1 _ _ (hok k hk) (hpos k hk)
  · intro k hk
    rw [pr_past n cap hc ds hw i k hk, pr_fut n cap hc ds hw i k hk, pr_cur n cap hc ds hw i k hk]
    exact h k hk

theorem pr_nonneg (l : List Int) (h : ∀ v ∈ l, 0 ≤ v) (k : Nat) : 0 ≤ pr k l :=
  (getD_eq_or_mem l k 0).elim (fun e => Int.le_of_eq e.symm) (h _)

theorem loads1_nonneg (n k : Nat) (hk : k < n) (cap : List Int) (hc : cap.length = n) (ds : List Dem)
    (hw : ∀ d ∈ ds, WF n d)
    (hpos : ∀ l ∈ loadProfile (cap.map (fun _ => 0)) ds, ∀ v ∈ l, 0 ≤ v) :
    ∀ l ∈ loads1 (ds.map (prD k)), 0 ≤ l := by
  intro l hl
  rw [← map_pr_loadProfile n k hk cap hc ds hw] at hl
  obtain ⟨v, hv, rfl⟩ := List.mem_map.mp hl
  exact pr_nonneg v (hpos v hv) k

/-- **C06 completeness (capacity, any number of dimensions)**: if the load profile with the job inserted at `p`
    stays within capacity, the tour itself is within capacity with non-negative loads, and in every dimension the demand
    has no static pickup together with a larger dynamic delivery, then the vector test on the cached maxima reports no
    violation. With `cap_sound_vec`: the test is exact. -/
theorem cap_complete_vec (n : Nat) (cap : List Int) (ds : List Dem) (p : Nat) (x : Dem) (st : Bool)
    (hc : cap.length = n) (hw : ∀ d ∈ ds, WF n d) (hx : WF n x) (hp : p ≤ ds.length)
    (hok : capOk cap ds = true)
    (hpos : ∀ l ∈ loadProfile (cap.map (fun _ => 0)) ds, ∀ v ∈ l, 0 ≤ v)
    (hshape : ∀ k, k < n → pr k x.sp = 0 ∨ pr k x.dd ≤ pr k x.dp)
    (hins : capOk cap (insertAt ds p x) = true) :
    hasDemandViolation cap
      ((loadCaches (cap.map (fun _ => 0)) ds).2.1.getD p (cap.map (fun _ => 0)))
      ((loadCaches (cap.map (fun _ => 0)) ds).2.2.getD p (cap.map (fun _ => 0)))
      ((loadCaches (cap.map (fun _ => 0)) ds).1.getD p (cap.map (fun _ => 0))) x st = none := by
  have hok1 := (capOk_iff n cap hc ds hw).mp hok
  have hins1 := (capOk_iff n cap hc _ (wf_insertAt n ds p x hw hx)).mp hins
  apply hdvAt_none n cap ds p x st hc hw hx hp hok1 (fun k hk => loads1_nonneg n k hk cap hc ds hw hpos)
  intro k hk
  apply cap_complete1 (pr k cap) (ds.map (prD k)) p (prD k x) (by simpa using hp)
    (loads1_nonneg n k hk cap hc ds hw hpos) (hshape k hk)
  have := hins1 k hk
  rw [map_prD_insertAt] at this
  exact this

theorem cap_exact_vec (n : Nat) (cap : List Int) (ds : List Dem) (p : Nat) (x : Dem) (st : Bool)
    (hc : cap.length = n) (hw : ∀ d ∈ ds, WF n d) (hx : WF n x) (hp : p ≤ ds.length)
    (hok : capOk cap ds = true)
    (hpos : ∀ l ∈ loadProfile (cap.map (fun _ => 0)) ds, ∀ v ∈ l, 0 ≤ v)
    (hshape : ∀ k, k < n → pr k x.sp = 0 ∨ pr k x.dd ≤ pr k x.dp) :
    hdvAt cap ds p x st = none ↔ capOk cap (insertAt ds p x) = true :=
  ⟨cap_sound_vec n cap ds p x st hc hw hx hp hok, cap_complete_vec n cap ds p x st hc hw hx hp hok hpos hshape⟩

theorem hdv_ne_some_true (cap past fut cur : List Int) (x : Dem)
    (hA : (vNotEmpty x.sd && !vfits cap (vadd past x.sd)) = false) :
    hasDemandViolation cap past fut cur x true ≠ some true := by
  intro h
  unfold hasDemandViolation at h
  rw [hA] at h
  simp only [Bool.false_eq_true, if_false] at h
  split at h
  · cases h
  · split at h <;> cases h

/-- if the job is admissible at index `p`, the static-delivery clause (the only verdict that stops the scan)
    does not fire at any index `i ≤ p`: `max_past` is non-decreasing along the tour. -/
theorem static_clause_mono (n : Nat) (cap : List Int) (ds : List Dem) (i p : Nat) (x : Dem)
    (hc : cap.length = n) (hw : ∀ d ∈ ds, WF n d) (hx : WF n x) (hip : i ≤ p) (hp : p ≤ ds.length)
    (h : hdvAt cap ds p x true = none) :
    hdvAt cap ds i x true ≠ some true := by
  refine hdv_ne_some_true _ _ _ _ _ ?_
  cases hne : vNotEmpty x.sd with
  | false => rfl
  | true =>
    have hsd := hx.2.2.1
    have hP := (vfits_vadd_iff cap _ x.sd n hc (past_length n cap hc ds hw p) hsd).mp
      (clause_off _ _ ((hdv_none_iff ..).mp h).1 hne)
    refine clause_off' _ _ ((vfits_vadd_iff cap _ x.sd n hc (past_length n cap hc ds hw i) hsd).mpr fun k hk => ?_)
    have := hP k hk
    have hm := runMax1_mono 0 (loads1 (ds.map (prD k))) i p hip
      (by rw [loads1_length, List.length_map]; exact Nat.lt_succ_of_le hp)
    simp only [pr_past n cap hc ds hw _ k hk] at this ⊢
    omega

theorem precheck_parts (n : Nat) (cap : List Int) (ds : List Dem) (p : Nat) (x : Dem)
    (hc : cap.length = n) (hw : ∀ d ∈ ds, WF n d) (hp : p ≤ ds.length)
    (hok : ∀ k, k < n → capOk1 (pr k cap) (ds.map (prD k)))
    (hpos : ∀ k, k < n → ∀ l ∈ loads1 (ds.map (prD k)), 0 ≤ l)
    (h : ∀ k, k < n → viol1 (pr k cap) ((runMax1 0 (loads1 (ds.map (prD k)))).getD p 0)
          ((maxFuture1 (loads1 (ds.map (prD k)))).getD p 0) ((loads1 (ds.map (prD k))).getD p 0) (prD k x) = false)
    (y : Dem) (hy : WF n y) :
    ((∀ k, k < n → prD k y = ⟨0, 0, (prD k x).sd, 0⟩) → hdvAt cap ds 0 y true = none) ∧
    ((∀ k, k < n → prD k y = ⟨(prD k x).sp, (prD k x).dp, 0, (prD k x).dd⟩) →
      hdvAt cap ds ds.length y true = none) := by
  have hnec := fun k hk =>
    route_precheck_necessary (pr k cap) (ds.map (prD k)) p (prD k x) (by rw [List.length_map]; exact hp) (h k hk)
  constructor <;> intro e
  · refine hdvAt_none n cap ds 0 y true hc hw hy (Nat.zero_le _) hok hpos fun k hk => ?_
    rw [e k hk]
    exact (hnec k hk).1
  · refine hdvAt_none n cap ds ds.length y true hc hw hy (Nat.le_refl _) hok hpos fun k hk => ?_
    have := (hnec k hk).2
    rw [List.length_map] at this
    rw [e k hk]
    exact this

/-- the mixed branch of the route-level test (vector lift of `route_precheck_necessary`) -/
theorem route_precheck_vec (n : Nat) (cap : List Int) (ds : List Dem) (p : Nat) (x : Dem)
    (hc : cap.length = n) (hw : ∀ d ∈ ds, WF n d) (hx : WF n x) (hp : p ≤ ds.length)
    (hok : ∀ k, k < n → capOk1 (pr k cap) (ds.map (prD k)))
    (hpos : ∀ k, k < n → ∀ l ∈ loads1 (ds.map (prD k)), 0 ≤ l)
    (h : ∀ k, k < n → viol1 (pr k cap) ((runMax1 0 (loads1 (ds.map (prD k)))).getD p 0)
          ((maxFuture1 (loads1 (ds.map (prD k)))).getD p 0) ((loads1 (ds.map (prD k))).getD p 0) (prD k x) = false) :
    hdvAt cap ds 0
      { sp := cap.map (fun _ => 0), dp := cap.map (fun _ => 0), sd := x.sd, dd := cap.map (fun _ => 0) } true = none ∧
    hdvAt cap ds ds.length
      { sp := x.sp, dp := x.dp, sd := cap.map (fun _ => 0), dd := x.dd } true = none := by
  have hz : (cap.map (fun _ => (0 : Int))).length = n := by rw [List.length_map, hc]
  exact ⟨(precheck_parts n cap ds p x hc hw hp hok hpos h
      { sp := cap.map (fun _ => 0), dp := cap.map (fun _ => 0), sd := x.sd, dd := cap.map (fun _ => 0) }
      ⟨hz, hz, hx.2.2.1, hz⟩).1 fun k _ => by simp only [prD, pr_zero],
    (precheck_parts n cap ds p x hc hw hp hok hpos h { sp := x.sp, dp := x.dp, sd := cap.map (fun _ => 0), dd := x.dd }
      ⟨hx.1, hx.2.1, hz, hx.2.2.2⟩).2 fun k _ => by simp only [prD, pr_zero]⟩

/-- the non-mixed branch -/
theorem route_precheck_pure (n : Nat) (cap : List Int) (ds : List Dem) (p : Nat) (x : Dem)
    (hc : cap.length = n) (hw : ∀ d ∈ ds, WF n d) (hx : WF n x) (hp : p ≤ ds.length)
    (hok : ∀ k, k < n → capOk1 (pr k cap) (ds.map (prD k)))
    (hpos : ∀ k, k < n → ∀ l ∈ loads1 (ds.map (prD k)), 0 ≤ l)
    (h : ∀ k, k < n → viol1 (pr k cap) ((runMax1 0 (loads1 (ds.map (prD k)))).getD p 0)
          ((maxFuture1 (loads1 (ds.map (prD k)))).getD p 0) ((loads1 (ds.map (prD k))).getD p 0) (prD k x) = false)
    (hpure : (vNotEmpty x.sd && (vNotEmpty x.sp || vNotEmpty x.dp || vNotEmpty x.dd)) = false) :
    hdvAt cap ds 0 x true = none ∨ hdvAt cap ds ds.length x true = none := by
  obtain ⟨h0, hL⟩ := precheck_parts n cap ds p x hc hw hp hok hpos h x hx
  cases hsd : vNotEmpty x.sd with
  | false => exact Or.inr (hL fun k _ => by simp only [prD, vNotEmpty_false x.sd hsd k])
  | true =>
    rw [hsd, Bool.true_and, Bool.or_eq_false_iff, Bool.or_eq_false_iff] at hpure
    exact Or.inl (h0 fun k _ => by
      simp only [prD, vNotEmpty_false x.sp hpure.1.1 k, vNotEmpty_false x.dp hpure.1.2 k, vNotEmpty_false x.dd hpure.2 k])

/-! ## the evaluator's caches include the arrival activity (`allDems`), the specification does not (`dems`) -/

theorem zero_wf (c : Ctx) (n : Nat) (hcap : c.cap.length = n) : WF n (demOr c.zero none) := by
  have hz : c.zero.length = n := by simp [Ctx.zero, hcap]
  exact ⟨hz, hz, hz, hz⟩

theorem prD_zero (c : Ctx) (k : Nat) : prD k (demOr c.zero none) = ⟨0, 0, 0, 0⟩ := by
  simp only [demOr, Option.getD_none, prD, Ctx.zero, pr_zero]

theorem map_prD_allDems (c : Ctx) (k : Nat) :
    c.allDems.map (prD k) = ext c.veh.endAt.isSome (c.dems.map (prD k)) := by
  unfold Ctx.allDems ext
  rw [List.map_append]
  cases c.veh.endAt.isSome with
  | false => rfl
  | true => rw [if_pos rfl, if_pos rfl, List.map_cons, List.map_nil, prD_zero]

theorem allDems_length (c : Ctx) :
    c.allDems.length = c.tour.length + (if c.veh.endAt.isSome then 1 else 0) := by
  unfold Ctx.allDems Ctx.dems
  cases c.veh.endAt.isSome <;> simp

theorem wf_allDems (c : Ctx) (n : Nat) (hcap : c.cap.length = n) (hwf : ∀ x ∈ c.dems, WF n x) :
    ∀ x ∈ c.allDems, WF n x := by
  intro x hx
  rcases List.mem_append.mp hx with h | h
  · exact hwf x h
  · split at h
    · rw [List.mem_singleton.mp h]; exact zero_wf c n hcap
    · cases h

theorem capOk_allDems (c : Ctx) (n : Nat) (hcap : c.cap.length = n) (hwf : ∀ x ∈ c.dems, WF n x) :
    capOk c.cap c.allDems = capOk c.cap c.dems := by
  rw [Bool.eq_iff_iff, capOk_iff n c.cap hcap _ (wf_allDems c n hcap hwf), capOk_iff n c.cap hcap _ hwf]
  exact forall₂_congr fun k _ => by rw [map_prD_allDems, capOk1_ext]

theorem capOk_insertAt_allDems (c : Ctx) (n : Nat) (hcap : c.cap.length = n) (hwf : ∀ x ∈ c.dems, WF n x)
    (d : Dem) (hwd : WF n d) (i : Nat) (hi : i ≤ c.dems.length) :
    capOk c.cap (insertAt c.allDems i d) = capOk c.cap (insertAt c.dems i d) := by
  rw [Bool.eq_iff_iff, capOk_iff n c.cap hcap _ (wf_insertAt n _ i d (wf_allDems c n hcap hwf) hwd),
    capOk_iff n c.cap hcap _ (wf_insertAt n _ i d hwf hwd)]
  exact forall₂_congr fun k _ => by
    rw [map_prD_insertAt, map_prD_insertAt, map_prD_allDems,
      insertAt1_ext _ _ _ _ (by rw [List.length_map]; exact hi), capOk1_ext]

/-- what the vector lemmas ask of the evaluator's list `allDems` follows from hypotheses about `dems` -/
theorem allDems_components (c : Ctx) (d : Dem) (n : Nat)
    (hcap : c.cap.length = n) (hwf : ∀ x ∈ c.dems, WF n x) (hwd : WF n d)
    (hbasecap : capOk c.cap c.dems = true)
    (hnonneg : ∀ l ∈ loadProfile c.zero c.dems, ∀ v ∈ l, 0 ≤ v)
    (hshape : ∀ k, k < n → pr k d.sp = 0 ∨ pr k d.dd ≤ pr k d.dp)
    (i : Nat) (hi : i ≤ c.acts.length)
    (hfeas_cap : capOk c.cap (insertAt c.dems i d) = true) :
    (∀ x ∈ c.allDems, WF n x) ∧ i ≤ c.allDems.length ∧
    (∀ k, k < n → capOk1 (pr k c.cap) (c.allDems.map (prD k))) ∧
    (∀ k, k < n → ∀ l ∈ loads1 (c.allDems.map (prD k)), 0 ≤ l) ∧
    (∀ k, k < n → viol1 (pr k c.cap) ((runMax1 0 (loads1 (c.allDems.map (prD k)))).getD i 0)
        ((maxFuture1 (loads1 (c.allDems.map (prD k)))).getD i 0) ((loads1 (c.allDems.map (prD k))).getD i 0)
        (prD k d) = false) := by
  have hiD : i ≤ c.dems.length := by rw [dems_length, ← acts_length]; exact hi
  have hiA : i ≤ c.allDems.length := by rw [allDems_length, ← acts_length]; exact Nat.le_add_right_of_le hi
  have hwA := wf_allDems c n hcap hwf
  have hA := (capOk_iff n c.cap hcap _ hwA).mp ((capOk_allDems c n hcap hwf).trans hbasecap)
  have hB : ∀ k, k < n → ∀ l ∈ loads1 (c.allDems.map (prD k)), 0 ≤ l := by
    intro k hk l hl
    rw [map_prD_allDems, mem_loads1_ext] at hl
    exact loads1_nonneg n k hk c.cap hcap c.dems hwf hnonneg l hl
  refine ⟨hwA, hiA, hA, hB, fun k hk => ?_⟩
  have hins := (capOk_iff n c.cap hcap _ (wf_insertAt n _ i d hwA hwd)).mp
    ((capOk_insertAt_allDems c n hcap hwf d hwd i hiD).trans hfeas_cap) k hk
  rw [map_prD_insertAt] at hins
  exact cap_complete1 (pr k c.cap) (c.allDems.map (prD k)) i (prD k d) (by rw [List.length_map]; exact hiA) (hB k hk)
    (hshape k hk) hins

/-- **the route-level test lets through every job with demand that has a feasible placement** -/
theorem evalRoute_of_feasible (c : Ctx) (j : JobS) (d : Dem) (hdem : j.dem = some d) (n : Nat)
    (hcap : c.cap.length = n) (hwf : ∀ x ∈ c.dems, WF n x) (hwd : WF n d)
    (ht : ∀ a b, 0 ≤ c.m.t a b) (hd : ∀ a ∈ c.acts, 0 ≤ a.dur)
    (hearly : c.veh.earliest ≤ c.veh.dep)
    (hbasecap : capOk c.cap c.dems = true)
    (hnonneg : ∀ l ∈ loadProfile c.zero c.dems, ∀ v ∈ l, 0 ≤ v)
    (hshape : ∀ k, k < n → pr k d.sp = 0 ∨ pr k d.dd ≤ pr k d.dp)
    (i : Nat) (hi : i ≤ c.acts.length) (p : JPlace) (hp : p ∈ j.places) (w : Int × Int) (hw : w ∈ p.tws)
    (hok : evalTime c.m.t c.veh c.acts i { loc := p.loc, s := w.1, e := w.2, dur := p.dur } = .ok)
    (hfeas_cap : capOk c.cap (insertAt c.dems i d) = true) :
    evalRoute c j = true := by
  obtain ⟨hwA, hiA, hA, hB, hV⟩ := allDems_components c d n hcap hwf hwd hbasecap hnonneg hshape i hi hfeas_cap
  unfold evalRoute
  simp only [hdem, Bool.and_eq_true]
  refine ⟨timeOk_of_evalTime_ok c j ht hd hearly i p hp w hw hok, ?_⟩
  rw [← allDems_length]
  simp only [capViolationAt_some]
  split
  · simp only [Bool.and_eq_true, Option.isNone_iff_eq_none]
    exact route_precheck_vec n c.cap c.allDems i d hcap hwA hwd hiA hA hB hV
  · next hpure =>
    simp only [Bool.or_eq_true, Option.isNone_iff_eq_none]
    exact route_precheck_pure n c.cap c.allDems i d hcap hwA hwd hiA hA hB hV (by simpa using hpure)

/-- scanning the consecutive legs `s, s+1, …, s+len-1`: if no leg up to `i` answers "fail" and leg `i` accepts some place
    and window, a best placement exists at the end (legs after `i` may stop the scan: the best found so far is kept) -/
theorem scanLegs_finds_upto (c : Ctx) (j : JobS) (len s : Nat) (sc : Scan) (i : Nat)
    (hs : s ≤ i) (hlt : i < s + len)
    (hnf : ∀ k, s ≤ k → k ≤ i → NoFailAt c j k)
    (p : JPlace) (hp : p ∈ j.places) (w : Int × Int) (hw : w ∈ p.tws)
    (hok : evalActivity c i { loc := p.loc, s := w.1, e := w.2, dur := p.dur } j.dem = .ok) :
    (scanLegs c j (List.range' s len) sc).best.isSome = true := by
  obtain ⟨m, rfl⟩ : ∃ m, len = (i - s) + (m + 1) := ⟨s + len - (i + 1), by omega⟩
  rw [← List.range'_append_1, List.range'_succ, Nat.add_sub_cancel' hs]
  refine scanLegs_reaches c j _ i _ sc (fun k hk => ?_) (hnf i hs (Nat.le_refl i)) p hp w hw hok
  obtain ⟨h1, h2⟩ := List.mem_range'_1.mp hk
  exact hnf k h1 (Nat.le_of_lt (Nat.add_sub_cancel' hs ▸ h2))

theorem capViolationAt_none_of_feasible (c : Ctx) (d : Dem) (n : Nat)
    (hcap : c.cap.length = n) (hwf : ∀ x ∈ c.dems, WF n x) (hwd : WF n d)
    (hbasecap : capOk c.cap c.dems = true)
    (hnonneg : ∀ l ∈ loadProfile c.zero c.dems, ∀ v ∈ l, 0 ≤ v)
    (hshape : ∀ k, k < n → pr k d.sp = 0 ∨ pr k d.dd ≤ pr k d.dp)
    (i : Nat) (hi : i ≤ c.acts.length)
    (hfeas_cap : capOk c.cap (insertAt c.dems i d) = true) :
    capViolationAt c i (some d) true = none := by
  obtain ⟨hwA, hiA, hA, hB, hV⟩ := allDems_components c d n hcap hwf hwd hbasecap hnonneg hshape i hi hfeas_cap
  rw [capViolationAt_some]
  exact hdvAt_none n c.cap c.allDems i d true hcap hwA hwd hiA hA hB hV

theorem evalActivity_ok_of_feasible (c : Ctx) (d : Dem) (n : Nat)
    (hcap : c.cap.length = n) (hwf : ∀ x ∈ c.dems, WF n x) (hwd : WF n d)
    (ht : ∀ a b, 0 ≤ c.m.t a b) (hd : ∀ a ∈ c.acts, 0 ≤ a.dur)
    (hdep : 0 ≤ c.veh.dep) (hearly : c.veh.earliest ≤ c.veh.dep)
    (hbase : tourFeas c.m.t c.veh c.acts = true) (hbasecap : capOk c.cap c.dems = true)
    (hnonneg : ∀ l ∈ loadProfile c.zero c.dems, ∀ v ∈ l, 0 ≤ v)
    (hshape : ∀ k, k < n → pr k d.sp = 0 ∨ pr k d.dd ≤ pr k d.dp)
    (i : Nat) (hi : i ≤ c.acts.length) (x : Act) (hxd : 0 ≤ x.dur) (hxw : x.s ≤ x.e)
    (hfeas_time : tourFeas c.m.t c.veh (insertAt c.acts i x) = true)
    (hfeas_cap : capOk c.cap (insertAt c.dems i d) = true) :
    evalActivity c i x (some d) = .ok :=
  (evalActivity_ok_iff c i x _).mpr ⟨(evalTime_complete c.m.t ht c.veh c.acts i x hi hd hxd hxw hdep hearly hbase hfeas_time),
    capViolationAt_none_of_feasible c d n hcap hwf hwd hbasecap hnonneg hshape i hi hfeas_cap⟩

/-- if the capacity test accepts the demand at leg `i`, then at no leg `k ≤ i` the evaluator answers "fail and
    stop" - whatever the place and window (the demand belongs to the job, not to the place) -/
theorem evalActivity_never_stops_before (c : Ctx) (d : Dem) (n : Nat)
    (hcap : c.cap.length = n) (hwf : ∀ x ∈ c.dems, WF n x) (hwd : WF n d)
    (ht : ∀ a b, 0 ≤ c.m.t a b) (hd : ∀ a ∈ c.acts, 0 ≤ a.dur)
    (hdep : 0 ≤ c.veh.dep) (hearly : c.veh.earliest ≤ c.veh.dep)
    (hbase : tourFeas c.m.t c.veh c.acts = true)
    (i : Nat) (hi : i ≤ c.acts.length) (hnone : capViolationAt c i (some d) true = none)
    (k : Nat) (hk : k ≤ i) (x : Act) :
    evalActivity c k x (some d) ≠ .fail := by
  have hiA : i ≤ c.allDems.length := by rw [allDems_length, ← acts_length]; exact Nat.le_add_right_of_le hi
  apply evalActivity_ne_fail
  · exact evalTime_never_stops c.m.t ht c.veh c.acts k x (Nat.le_trans hk hi) hd hdep hearly hbase
  · rw [capViolationAt_some] at hnone ⊢
    exact static_clause_mono n c.cap c.allDems k i d hcap (wf_allDems c n hcap hwf) hwd hk hiA hnone

/-- **C06 completeness of `Any` for jobs with demand** (time windows and capacity together): on a feasible tour with
    non-negative travel times, service durations and loads, for a demand that in every dimension has no static pickup or
    a dynamic delivery not above its dynamic pickup (every shape the readers produce): if the step-by-step simulation
    finds the tour with the job inserted at SOME leg, place and window feasible - in time AND in load - then
    `eval_job_insertion_in_route(Any)` (model) succeeds. Every hypothesis is about the inputs (the tour, the vehicle, the
    job and the specification functions `tourFeas`, `capOk`, `loadProfile`), none about internal values of the model. -/
theorem evalJob_any_complete (c : Ctx) (j : JobS) (d : Dem) (hdem : j.dem = some d) (n : Nat)
    (hcap : c.cap.length = n) (hwf : ∀ x ∈ c.dems, WF n x) (hwd : WF n d)
    (ht : ∀ a b, 0 ≤ c.m.t a b) (hd : ∀ a ∈ c.acts, 0 ≤ a.dur)
    (hdep : 0 ≤ c.veh.dep) (hearly : c.veh.earliest ≤ c.veh.dep)
    (hbase : tourFeas c.m.t c.veh c.acts = true) (hbasecap : capOk c.cap c.dems = true)
    (hnonneg : ∀ l ∈ loadProfile c.zero c.dems, ∀ v ∈ l, 0 ≤ v)
    (hshape : ∀ k, k < n → pr k d.sp = 0 ∨ pr k d.dd ≤ pr k d.dp)
    (i : Nat) (hi : i ≤ c.acts.length) (p : JPlace) (hp : p ∈ j.places) (w : Int × Int) (hw : w ∈ p.tws)
    (hpd : 0 ≤ p.dur) (hww : w.1 ≤ w.2)
    (hfeas_time : tourFeas c.m.t c.veh (insertAt c.acts i { loc := p.loc, s := w.1, e := w.2, dur := p.dur }) = true)
    (hfeas_cap : capOk c.cap (insertAt c.dems i d) = true) :
    (evalJob c j .any).isSome = true := by
  have htimeOk := evalTime_complete c.m.t ht c.veh c.acts i _ hi hd hpd hww hdep hearly hbase hfeas_time
  have hnone := capViolationAt_none_of_feasible c d n hcap hwf hwd hbasecap hnonneg hshape i hi hfeas_cap
  refine evalJob_any_isSome c j (evalRoute_of_feasible c j d hdem n hcap hwf hwd ht hd hearly hbasecap hnonneg hshape i hi
    p hp w hw htimeOk hfeas_cap) i (acts_length c ▸ hi) (fun k hk p' _ w' _ => ?_) p hp w hw ?_ <;> rw [hdem]
  · exact evalActivity_never_stops_before c d n hcap hwf hwd ht hd hdep hearly hbase i hi hnone k hk _
  · exact evalActivity_ok_of_feasible c d n hcap hwf hwd ht hd hdep hearly hbase hbasecap hnonneg hshape i hi _ hpd hww
      hfeas_time hfeas_cap

theorem existsFeasible_witness (c : Ctx) (j : JobS) (h : existsFeasible c j = true) :
    ∃ i, i ≤ c.acts.length ∧ ∃ p ∈ j.places, ∃ w ∈ p.tws,
      tourFeas c.m.t c.veh (insertAt c.acts i { loc := p.loc, s := w.1, e := w.2, dur := p.dur }) = true ∧
      capOk c.cap (insertAt c.dems i (demOr c.zero j.dem)) = true := by
  unfold existsFeasible at h
  simp only [List.any_eq_true, List.mem_range, legCount_eq, Nat.lt_succ_iff, ← acts_length] at h
  obtain ⟨i, hi, pi, _, h⟩ := h
  cases hpi : j.places[pi]? with
  | none => simp only [hpi, Bool.false_eq_true] at h
  | some p =>
    simp only [hpi, List.any_eq_true, insertedFeasible, Bool.and_eq_true] at h
    obtain ⟨w, hw, h⟩ := h
    exact ⟨i, hi, p, List.mem_of_getElem? hpi, w, hw, h⟩

/-- **C06 completeness of `Any` against the brute-force specification**, jobs with or without demand: whenever
    `existsFeasible` (insert at every leg × place × window, simulate schedule and load profile step by step) finds a feasible
    tour, the evaluator model returns a placement. -/
theorem evalJob_any_complete_spec (c : Ctx) (j : JobS) (n : Nat)
    (hcap : c.cap.length = n) (hwf : ∀ x ∈ c.dems, WF n x)
    (hjd : ∀ d, j.dem = some d → WF n d ∧ ∀ k, k < n → pr k d.sp = 0 ∨ pr k d.dd ≤ pr k d.dp)
    (ht : ∀ a b, 0 ≤ c.m.t a b) (hd : ∀ a ∈ c.acts, 0 ≤ a.dur)
    (hdep : 0 ≤ c.veh.dep) (hearly : c.veh.earliest ≤ c.veh.dep)
    (hbase : baseFeasible c = true)
    (hnonneg : ∀ l ∈ loadProfile c.zero c.dems, ∀ v ∈ l, 0 ≤ v)
    (hplaces : ∀ p ∈ j.places, 0 ≤ p.dur ∧ ∀ w ∈ p.tws, w.1 ≤ w.2)
    (hex : existsFeasible c j = true) :
    (evalJob c j .any).isSome = true := by
  obtain ⟨hbt, hbc⟩ := Bool.and_eq_true_iff.mp hbase
  obtain ⟨i, hi, p, hp, w, hw, hft, hfc⟩ := existsFeasible_witness c j hex
  obtain ⟨hpd, hws⟩ := hplaces p hp
  cases hdem : j.dem with
  | none => exact evalJob_any_complete_time' c j hdem ht hd hdep hearly hbt i hi p hp w hw hpd (hws w hw) hft
  | some d =>
    rw [hdem] at hfc
    obtain ⟨hwd, hshape⟩ := hjd d hdem
    exact evalJob_any_complete c j d hdem n hcap hwf hwd ht hd hdep hearly hbt hbc hnonneg hshape i hi p hp w hw
      hpd (hws w hw) hft hfc

/-! ## non-vacuity: two capacity dimensions, a demand with static delivery and dynamic pickup

Tour (closed, shift end 100, capacity `[10, 5]`): A picks up `[8, 1]` (dynamic), B delivers it: loads `[0,0] [8,1] [0,0]`.
Place of the job: location 1 with the windows `(0,3)` (unreachable: refused by time) and `(0,90)`. -/

def exM : Mat := { n := 3, dur := [0, 5, 5, 5, 0, 5, 5, 5, 0], dist := [0, 5, 5, 5, 0, 5, 5, 5, 0] }
def exC : Ctx :=
  { m := exM, veh := { startLoc := 0, earliest := 0, dep := 0, endAt := some (0, 100) }, cap := [10, 5],
    costs := ⟨0, 1, 1⟩, obj := .distance,
    tour := [⟨{ loc := 1, s := 0, e := 50, dur := 2 }, some ⟨[0, 0], [8, 1], [0, 0], [0, 0]⟩⟩,
             ⟨{ loc := 2, s := 0, e := 60, dur := 1 }, some ⟨[0, 0], [0, 0], [0, 0], [8, 1]⟩⟩] }
def exP : JPlace := { loc := 1, dur := 1, tws := [(0, 3), (0, 90)] }
/-- static delivery `[2,0]` + dynamic pickup `[3,2]`: capacity refuses legs 0 and 1 ("skip"), accepts leg 2 -/
def exD1 : Dem := ⟨[0, 0], [3, 2], [2, 0], [0, 0]⟩
def exJ1 : JobS := { places := [exP], dem := some exD1 }
/-- static delivery `[3,0]` + dynamic pickup `[3,2]`: passes the route-level pre-check, but fits nowhere -/
def exD2 : Dem := ⟨[0, 0], [3, 2], [3, 0], [0, 0]⟩
def exJ2 : JobS := { places := [exP], dem := some exD2 }

instance (n : Nat) (d : Dem) : Decidable (WF n d) := by unfold WF; infer_instance

theorem exM_nonneg : ∀ a b, 0 ≤ exC.m.t a b := fun a b => pr_nonneg exM.dur (by decide) (a * exM.n + b)

-- the capacity verdicts leg by leg: J1 is skipped twice and then accepted, J2 is skipped and then stopped
example : (List.range 3).map (fun i => capViolationAt exC i exJ1.dem true) = [some false, some false, none] := by decide +kernel
example : (List.range 3).map (fun i => capViolationAt exC i exJ2.dem true) = [some false, some true, some true] := by
  decide +kernel

/-- all hypotheses of `evalJob_any_complete` hold for `exC`, `exJ1` (leg 2, second window): the theorem is not vacuous -/
example : (evalJob exC exJ1 .any).isSome = true :=
  evalJob_any_complete exC exJ1 exD1 rfl 2 rfl (by decide) (by decide) exM_nonneg (by decide) (by decide) (by decide)
    (by decide) (by decide) (by decide) (by decide) 2 (by decide) exP (by show exP ∈ [exP]; simp) (0, 90) (by decide) (by decide)
    (by decide) (by decide) (by decide)
-- … and the model indeed reports leg 2 with the second window
example : (evalJob exC exJ1 .any).map (fun f => (f.index, f.place, f.tw)) = some (2, 0, (0, 90)) := by decide +kernel
example : (evalJob exC exJ1 .any).isSome = true :=
  evalJob_any_complete_spec exC exJ1 2 rfl (by decide)
    (by intro d hd; cases hd; exact ⟨by decide, by decide⟩)
    exM_nonneg (by decide) (by decide) (by decide) (by decide) (by decide) (by decide) (by decide)

-- capacity refuses J2 everywhere although the route-level test lets it through and the time part alone would accept
-- it: the conclusion fails exactly because `hfeas_cap` has no witness (the specification agrees)
example : evalRoute exC exJ2 = true ∧ evalJob exC exJ2 .any = none ∧ existsFeasible exC exJ2 = false ∧
    (evalJob exC { exJ2 with dem := none } .any).isSome = true := by decide +kernel

/-! ### the two capacity hypotheses are needed (one dimension, capacity 10, one tour activity with demand `d`) -/

def exC1 (d : Dem) : Ctx :=
  { m := exM, veh := { startLoc := 0, earliest := 0, dep := 0, endAt := some (0, 100) }, cap := [10],
    costs := ⟨0, 1, 1⟩, obj := .distance,
    tour := [⟨{ loc := 1, s := 0, e := 50, dur := 2 }, some d⟩] }

-- `hshape`: a static pickup of 3 together with a dynamic delivery of 3 after a static pickup of 8 keeps the load at 8
-- (feasible for the simulation), the evaluator adds the static pickup to `max_future` and refuses everywhere
example : baseFeasible (exC1 ⟨[8], [0], [0], [0]⟩) = true ∧
    existsFeasible (exC1 ⟨[8], [0], [0], [0]⟩) { places := [exP], dem := some ⟨[3], [0], [0], [3]⟩ } = true ∧
    evalJob (exC1 ⟨[8], [0], [0], [0]⟩) { places := [exP], dem := some ⟨[3], [0], [0], [3]⟩ } .any = none := by decide +kernel

-- `hnonneg`: with a negative load at departure (-5) `max_past` is the initial zero of the fold, not a load of the
-- tour: a static delivery of 12 fits the simulated profile (7 at departure) and is refused by the evaluator
example : baseFeasible (exC1 ⟨[0], [0], [-5], [0]⟩) = true ∧
    loadProfile (exC1 ⟨[0], [0], [-5], [0]⟩).zero (exC1 ⟨[0], [0], [-5], [0]⟩).dems = [[-5], [0]] ∧
    existsFeasible (exC1 ⟨[0], [0], [-5], [0]⟩) { places := [exP], dem := some ⟨[0], [0], [12], [0]⟩ } = true ∧
    evalJob (exC1 ⟨[0], [0], [-5], [0]⟩) { places := [exP], dem := some ⟨[0], [0], [12], [0]⟩ } .any = none := by decide +kernel

/-! ## the decidable form of the hypotheses (evaluated by the driver on every generated case) -/

theorem demShape_spec (n : Nat) (d : Dem) (h : demShape n d = true) :
    ∀ k, k < n → pr k d.sp = 0 ∨ pr k d.dd ≤ pr k d.dp := by
  intro k hk
  unfold demShape at h
  have := List.all_eq_true.mp h k (List.mem_range.mpr hk)
  simpa [pr] using this

/-- **C06 completeness, decidable hypotheses**: on every case for which the Boolean `completeHyps` evaluates to true,
    a feasible (leg, place, window) found by the brute-force simulation implies that `Any` succeeds -/
theorem evalJob_any_complete_hyps (c : Ctx) (j : JobS) (hh : completeHyps c j = true)
    (hex : existsFeasible c j = true) : (evalJob c j .any).isSome = true := by
  simp only [completeHyps, Bool.and_eq_true, List.all_eq_true, decide_eq_true_eq] at hh
  obtain ⟨⟨⟨⟨⟨⟨⟨⟨hwf, hjd⟩, hdur⟩, hacts⟩, hdep⟩, hearly⟩, hbase⟩, hnn⟩, hpl⟩ := hh
  refine evalJob_any_complete_spec c j c.cap.length rfl (fun x hx => (demWF_iff _ _).mp (hwf x hx)) ?_
    (fun a b => pr_nonneg c.m.dur hdur (a * c.m.n + b)) hacts hdep hearly hbase hnn hpl hex
  intro d hd
  rw [hd, Bool.and_eq_true] at hjd
  exact ⟨(demWF_iff _ _).mp hjd.1, demShape_spec _ _ hjd.2⟩

example : completeHyps exC exJ1 = true ∧ existsFeasible exC exJ1 = true := by decide +kernel

end C06Complete
