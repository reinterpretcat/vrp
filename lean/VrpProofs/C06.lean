import VrpModel.C06
/-!
# C06 — insertion evaluation agrees with brute-force simulation (time-window part and scan)

`Route.feas` / `Route.tourFeas` is the SPEC (step-by-step simulation); `C06.evalTime` is the MODEL of
`TransportConstraint::evaluate_activity`, which decides in O(1) from the cached latest arrival
(`Route.latestArr`, the model of `update_states`). Everything is for tours of any length.
-/

namespace C06
open Route

variable (t : Nat → Nat → Int)

theorem feas_nil (l : Nat) (dep : Int) : feas t [] l dep = true := by rw [feas]
theorem feas_cons (a : Act) (r : List Act) (l : Nat) (dep : Int) :
    feas t (a :: r) l dep = (decide (dep + t l a.loc ≤ a.e) && feas t r a.loc (depOf a (dep + t l a.loc))) := by
  rw [feas]
theorem after_nil (l : Nat) (dep : Int) : after t [] l dep = (l, dep) := by rw [after]
theorem after_cons (a : Act) (r : List Act) (l : Nat) (dep : Int) :
    after t (a :: r) l dep = after t r a.loc (depOf a (dep + t l a.loc)) := by rw [after]
theorem latestArr_one (a : Act) : latestArr t [a] = a.e := by rw [latestArr]
theorem latestArr_cc (a b : Act) (r : List Act) :
    latestArr t (a :: b :: r) = min a.e (latestArr t (b :: r) - t a.loc b.loc - a.dur) := by rw [latestArr]

theorem feas_cons_iff (a : Act) (r : List Act) (l : Nat) (dep : Int) :
    feas t (a :: r) l dep = true ↔ dep + t l a.loc ≤ a.e ∧ feas t r a.loc (depOf a (dep + t l a.loc)) = true := by
  rw [feas_cons, Bool.and_eq_true, decide_eq_true_eq]

theorem feas_append (xs ys : List Act) (l : Nat) (dep : Int) :
    feas t (xs ++ ys) l dep =
      (feas t xs l dep && feas t ys (after t xs l dep).1 (after t xs l dep).2) := by
  induction xs generalizing l dep with
  | nil => rw [List.nil_append, feas_nil, after_nil, Bool.true_and]
  | cons a xs ih => rw [List.cons_append, feas_cons, feas_cons, after_cons, ih, Bool.and_assoc]

theorem depOf_le_iff (a : Act) (arr d : Int) : depOf a arr ≤ d ↔ arr ≤ d - a.dur ∧ a.s ≤ d - a.dur := by
  rw [depOf, Int.add_le_iff_le_sub, Int.max_le]

theorem depOf_mono (a : Act) {arr arr' : Int} (h : arr' ≤ arr) : depOf a arr' ≤ depOf a arr := by
  have := (depOf_le_iff a arr _).mp (Int.le_refl _)
  exact (depOf_le_iff a arr' _).mpr ⟨Int.le_trans h this.1, this.2⟩

/-- **If the suffix is feasible for its current arrival (from `l0` at `dep0`), then it is feasible
    when reached from `l` at `dep` iff the arrival at its head is not later than the cached latest
    arrival.** (No triangle inequality, no sign condition on durations.) -/
theorem feas_iff_latestArr (a : Act) (r : List Act) (l l0 : Nat) (dep dep0 : Int)
    (h0 : feas t (a :: r) l0 dep0 = true) :
    feas t (a :: r) l dep = true ↔ dep + t l a.loc ≤ latestArr t (a :: r) := by
  induction r generalizing a l l0 dep dep0 with
  | nil => rw [feas_cons_iff, feas_nil, latestArr_one, and_iff_left rfl]
  | cons b r ih =>
    rw [feas_cons_iff] at h0 ⊢
    -- besides the bound on the arrival, the suffix asks for `a.s + a.dur + t a b ≤ latestArr (b :: r)`, which does
    -- not depend on the arrival and holds for the current one
    have h00 := (ih b a.loc a.loc _ _ h0.2).mp h0.2
    rw [Int.add_le_iff_le_sub, depOf_le_iff] at h00
    rw [latestArr_cc, ih b a.loc a.loc _ _ h0.2, Int.add_le_iff_le_sub (b := t a.loc b.loc), depOf_le_iff, Int.le_min]
    exact ⟨fun h => ⟨h.1, h.2.1⟩, fun h => ⟨h.1, h.2, h00.2⟩⟩

theorem feas_mono (acts : List Act) (l : Nat) (dep dep' : Int) (hle : dep' ≤ dep)
    (h : feas t acts l dep = true) : feas t acts l dep' = true := by
  induction acts generalizing l dep dep' with
  | nil => exact feas_nil t l dep'
  | cons a r ih =>
    rw [feas_cons_iff] at h ⊢
    have harr : dep' + t l a.loc ≤ dep + t l a.loc := Int.add_le_add_right hle _
    exact ⟨Int.le_trans harr h.1, ih a.loc _ _ (depOf_mono a harr) h.2⟩

theorem ite_verdict {c : Prop} [Decidable c] {u v r : Verdict} (h : v ≠ u) :
    (if c then v else r) = u ↔ ¬c ∧ r = u := by
  split <;> simp [*]

theorem evalTimeCore_ok_next (p : Nat × Int) (nx x : Act) (rest' : List Act) :
    evalTimeCore t p (nx :: rest') x = .ok ↔
      (p.2 + t p.1 nx.loc ≤ latestArr t (nx :: rest') ∧ x.s ≤ latestArr t (nx :: rest') ∧
       p.2 + t p.1 x.loc ≤ min x.e (latestArr t (nx :: rest') - t x.loc nx.loc - x.dur) ∧
       depOf x (p.2 + t p.1 x.loc) + t x.loc nx.loc ≤ latestArr t (nx :: rest')) := by
  simp only [evalTimeCore, ite_verdict (u := .ok) (v := .fail) nofun, ite_verdict (u := .ok) (v := .skip) nofun,
    gt_iff_lt, Int.not_lt, and_true]

theorem evalTimeCore_ok_open (p : Nat × Int) (x : Act) :
    evalTimeCore t p [] x = .ok ↔ (p.2 + t p.1 x.loc ≤ x.e ∧ x.s ≤ x.e) := by
  simp only [evalTimeCore, ite_verdict (u := .ok) (v := .skip) nofun, gt_iff_lt, Int.not_lt, and_true]

theorem evalTimeCore_ok_arrival (p : Nat × Int) (rest : List Act) (x : Act) (h : evalTimeCore t p rest x = .ok) :
    p.2 + t p.1 x.loc ≤ x.e := by
  cases rest with
  | nil => exact ((evalTimeCore_ok_open t p x).mp h).1
  | cons nx r => exact (Int.le_min.mp ((evalTimeCore_ok_next t p nx x r).mp h).2.2.1).1

theorem evalTimeCore_fail (p : Nat × Int) (rest : List Act) (x : Act) (h : evalTimeCore t p rest x = .fail) :
    ∃ nx r, rest = nx :: r ∧ latestArr t rest < p.2 + t p.1 nx.loc := by
  cases rest with
  | nil => simp [evalTimeCore, ite_verdict (u := .fail) (v := .skip) nofun] at h
  | cons nx r =>
    refine ⟨nx, r, rfl, Int.not_le.mp fun hle => ?_⟩
    simp [evalTimeCore, ite_verdict (u := .fail) (v := .skip) nofun, Int.not_lt.mpr hle] at h

theorem evalTime_ok_iff (v : Veh) (jobs : List Act) (i : Nat) (x : Act) :
    evalTime t v jobs i x = .ok ↔
      ((tooLate v (prevStart v (jobs.take i)) || nextLate v ((v.full jobs).drop i)) = false ∧
       tooLate v x.s = false ∧
       evalTimeCore t (after t (jobs.take i) v.startLoc v.dep) ((v.full jobs).drop i) x = .ok) := by
  simp only [evalTime, ite_verdict (u := .ok) (v := .fail) nofun, ite_verdict (u := .ok) (v := .skip) nofun,
    Bool.not_eq_true]

theorem full_insertAt (v : Veh) (jobs : List Act) (i : Nat) (x : Act) (hi : i ≤ jobs.length) :
    v.full (insertAt jobs i x) = jobs.take i ++ x :: (v.full jobs).drop i := by
  unfold Veh.full insertAt
  rw [List.drop_append_of_le_length hi, List.append_assoc, List.cons_append]

theorem full_split (v : Veh) (jobs : List Act) (i : Nat) (hi : i ≤ jobs.length) :
    v.full jobs = jobs.take i ++ (v.full jobs).drop i := by
  unfold Veh.full
  rw [List.drop_append_of_le_length hi, ← List.append_assoc, List.take_append_drop]

theorem tourFeas_split (v : Veh) (jobs : List Act) (i : Nat) (hi : i ≤ jobs.length) :
    tourFeas t v jobs = true ↔ feas t (jobs.take i) v.startLoc v.dep = true ∧
      feas t ((v.full jobs).drop i) (after t (jobs.take i) v.startLoc v.dep).1
        (after t (jobs.take i) v.startLoc v.dep).2 = true := by
  rw [tourFeas, full_split v jobs i hi, feas_append, Bool.and_eq_true, ← full_split v jobs i hi]

theorem tourFeas_insertAt (v : Veh) (jobs : List Act) (i : Nat) (x : Act) (hi : i ≤ jobs.length) :
    tourFeas t v (insertAt jobs i x) = true ↔ feas t (jobs.take i) v.startLoc v.dep = true ∧
      feas t (x :: (v.full jobs).drop i) (after t (jobs.take i) v.startLoc v.dep).1
        (after t (jobs.take i) v.startLoc v.dep).2 = true := by
  rw [tourFeas, full_insertAt v jobs i x hi, feas_append, Bool.and_eq_true]

/-- **C06 soundness (time)**: on a feasible tour, whatever position the evaluator accepts gives a tour
    that the step-by-step simulation finds feasible — closed and open tours, any length, waiting and
    tight windows included. -/
theorem evalTime_sound (v : Veh) (jobs : List Act) (i : Nat) (x : Act) (hi : i ≤ jobs.length)
    (hbase : tourFeas t v jobs = true) (h : evalTime t v jobs i x = .ok) :
    tourFeas t v (insertAt jobs i x) = true := by
  obtain ⟨hpre, hsuf⟩ := (tourFeas_split t v jobs i hi).mp hbase
  obtain ⟨_, _, hcore⟩ := (evalTime_ok_iff t v jobs i x).mp h
  refine (tourFeas_insertAt t v jobs i x hi).mpr ⟨hpre, (feas_cons_iff t ..).mpr ⟨evalTimeCore_ok_arrival t _ _ x hcore, ?_⟩⟩
  cases hrest : (v.full jobs).drop i with
  | nil => exact feas_nil t _ _
  | cons nx rest' =>
    rw [hrest] at hcore hsuf
    exact (feas_iff_latestArr t nx rest' x.loc _ _ _ hsuf).mpr ((evalTimeCore_ok_next t _ nx x rest').mp hcore).2.2.2

theorem feas_le_last (ht : ∀ a b, 0 ≤ t a b) (acts : List Act) (hd : ∀ a ∈ acts, 0 ≤ a.dur)
    (l : Nat) (dep : Int) (z : Act) (hz : acts.getLast? = some z)
    (h : feas t acts l dep = true) : dep ≤ z.e ∧ ∀ a ∈ acts, a.s ≤ z.e ∨ a = z := by
  induction acts generalizing l dep with
  | nil => cases hz
  | cons a r ih =>
    rw [feas_cons_iff] at h
    have hta := ht l a.loc
    cases r with
    | nil =>
      obtain rfl : a = z := Option.some.inj hz
      exact ⟨Int.le_trans (Int.le_add_of_nonneg_right hta) h.1, fun c hc => Or.inr (List.mem_singleton.mp hc)⟩
    | cons b r' =>
      obtain ⟨h1, h2⟩ := ih (fun c hc => hd c (List.mem_cons_of_mem _ hc)) a.loc _
        (by rwa [List.getLast?_cons_cons] at hz) h.2
      obtain ⟨h3, h4⟩ := (depOf_le_iff a _ _).mp h1
      have hda := hd a List.mem_cons_self
      have hze : z.e - a.dur ≤ z.e := Int.sub_le_self _ hda
      refine ⟨Int.le_trans (Int.le_add_of_nonneg_right hta) (Int.le_trans h3 hze), fun c hc => ?_⟩
      rcases List.mem_cons.mp hc with rfl | hc
      · exact Or.inl (Int.le_trans h4 hze)
      · exact h2 c hc

theorem tooLate_false_of_le (v : Veh) (s : Int)
    (h : ∀ loc T, v.endAt = some (loc, T) → s ≤ T) : tooLate v s = false := by
  unfold tooLate
  split
  · exact decide_eq_false (Int.not_lt.mpr (h _ _ ‹_›))
  · rfl

theorem closed_bounds (ht : ∀ a b, 0 ≤ t a b) (v : Veh) (jobs : List Act) (hd : ∀ a ∈ jobs, 0 ≤ a.dur)
    (loc : Nat) (T : Int) (he : v.endAt = some (loc, T)) (hdep : 0 ≤ v.dep)
    (h : tourFeas t v jobs = true) :
    v.dep ≤ T ∧ ∀ a ∈ v.full jobs, a.s ≤ T := by
  have hfull : v.full jobs = jobs ++ [{ loc := loc, s := 0, e := T, dur := 0 }] := by rw [Veh.full, Veh.endActs, he]
  rw [tourFeas, hfull] at h
  rw [hfull]
  obtain ⟨h1, h2⟩ := feas_le_last t ht _
    (fun a ha => (List.mem_append.mp ha).elim (hd a) fun h => by rw [List.mem_singleton.mp h]; exact Int.le_refl 0)
    _ _ _ List.getLast?_concat h
  refine ⟨h1, fun a ha => (h2 a ha).elim id fun h => ?_⟩
  rw [h]
  exact Int.le_trans hdep h1

theorem prechecks_pass (ht : ∀ a b, 0 ≤ t a b) (v : Veh) (jobs : List Act) (i : Nat)
    (hd : ∀ a ∈ jobs, 0 ≤ a.dur) (hdep : 0 ≤ v.dep) (hearly : v.earliest ≤ v.dep)
    (hbase : tourFeas t v jobs = true) :
    (tooLate v (prevStart v (jobs.take i)) || nextLate v ((v.full jobs).drop i)) = false := by
  rw [Bool.or_eq_false_iff]
  constructor
  · refine tooLate_false_of_le v _ fun loc T he => ?_
    obtain ⟨hb1, hb2⟩ := closed_bounds t ht v jobs hd loc T he hdep hbase
    unfold prevStart
    cases hl : (jobs.take i).getLast? with
    | none => exact Int.le_trans hearly hb1
    | some a => exact hb2 a (List.mem_append_left _ (List.mem_of_mem_take (List.mem_of_getLast? hl)))
  · unfold nextLate
    cases hrest : (v.full jobs).drop i with
    | nil => rfl
    | cons nx rest' =>
      refine tooLate_false_of_le v _ fun loc T he => ?_
      exact (closed_bounds t ht v jobs hd loc T he hdep hbase).2 nx
        (List.mem_of_mem_drop (hrest ▸ List.mem_cons_self))

theorem getD_eq_or_mem {α : Type} (l : List α) (i : Nat) (d : α) : l.getD i d = d ∨ l.getD i d ∈ l := by
  rw [List.getD_eq_getElem?_getD]
  cases h : l[i]? with
  | none => exact Or.inl rfl
  | some x => exact Or.inr (List.mem_of_getElem? h)

theorem mem_insertAt {α : Type} (l : List α) (i : Nat) (x a : α) : a ∈ insertAt l i x → a = x ∨ a ∈ l := by
  intro h
  rcases List.mem_append.mp h with h | h
  · exact Or.inr (List.mem_of_mem_take h)
  · exact (List.mem_cons.mp h).imp id List.mem_of_mem_drop

/-- **C06 completeness (time)**: on a feasible tour with non-negative travel times and durations,
    if the simulation finds the tour with `x` inserted at position `i` feasible, the evaluator's O(1)
    test accepts that position (no triangle inequality is needed). `0 ≤ v.dep`: the window of the arrival activity starts at 0, so the shift-end pre-check on the
    next activity passes only if the shift end is not negative. -/
theorem evalTime_complete (ht : ∀ a b, 0 ≤ t a b) (v : Veh) (jobs : List Act) (i : Nat) (x : Act)
    (hi : i ≤ jobs.length) (hd : ∀ a ∈ jobs, 0 ≤ a.dur) (hxd : 0 ≤ x.dur) (hxw : x.s ≤ x.e)
    (hdep : 0 ≤ v.dep) (hearly : v.earliest ≤ v.dep)
    (hbase : tourFeas t v jobs = true)
    (hins : tourFeas t v (insertAt jobs i x) = true) :
    evalTime t v jobs i x = .ok := by
  obtain ⟨_, hsuf⟩ := (tourFeas_split t v jobs i hi).mp hbase
  obtain ⟨_, hsufI⟩ := (tourFeas_insertAt t v jobs i x hi).mp hins
  obtain ⟨hx1, hx2⟩ := (feas_cons_iff t ..).mp hsufI
  refine (evalTime_ok_iff t v jobs i x).mpr ⟨prechecks_pass t ht v jobs i hd hdep hearly hbase, ?_, ?_⟩
  · refine tooLate_false_of_le v _ fun loc T he => ?_
    refine (closed_bounds t ht v (insertAt jobs i x) ?_ loc T he hdep hins).2 x ?_
    · exact fun a ha => (mem_insertAt jobs i x a ha).elim (fun h => h ▸ hxd) (hd a)
    · rw [full_insertAt v jobs i x hi]
      exact List.mem_append_right _ List.mem_cons_self
  · cases hrest : (v.full jobs).drop i with
    | nil => exact (evalTimeCore_ok_open t _ x).mpr ⟨hx1, hxw⟩
    | cons nx rest' =>
      rw [hrest] at hx2 hsuf
      have ha := (feas_iff_latestArr t nx rest' _ _ _ _ hsuf).mp hsuf
      have hdd := (feas_iff_latestArr t nx rest' x.loc _ _ _ hsuf).mp hx2
      obtain ⟨h1, h2⟩ := (depOf_le_iff x _ _).mp (Int.add_le_iff_le_sub.mp hdd)
      have htx := ht x.loc nx.loc
      exact (evalTimeCore_ok_next t _ nx x rest').mpr ⟨ha, by omega, Int.le_min.mpr ⟨hx1, by omega⟩, hdd⟩

theorem evalTime_exact (ht : ∀ a b, 0 ≤ t a b) (v : Veh) (jobs : List Act) (i : Nat) (x : Act)
    (hi : i ≤ jobs.length) (hd : ∀ a ∈ jobs, 0 ≤ a.dur) (hxd : 0 ≤ x.dur) (hxw : x.s ≤ x.e)
    (hdep : 0 ≤ v.dep) (hearly : v.earliest ≤ v.dep) (hbase : tourFeas t v jobs = true) :
    evalTime t v jobs i x = .ok ↔ tourFeas t v (insertAt jobs i x) = true :=
  ⟨evalTime_sound t v jobs i x hi hbase,
   evalTime_complete t ht v jobs i x hi hd hxd hxw hdep hearly hbase⟩

/-- the "fail and stop" verdict of the time test is unreachable on a feasible tour -/
theorem evalTime_never_stops (ht : ∀ a b, 0 ≤ t a b) (v : Veh) (jobs : List Act) (i : Nat) (x : Act)
    (hi : i ≤ jobs.length) (hd : ∀ a ∈ jobs, 0 ≤ a.dur)
    (hdep : 0 ≤ v.dep) (hearly : v.earliest ≤ v.dep) (hbase : tourFeas t v jobs = true) :
    evalTime t v jobs i x ≠ .fail := by
  intro hf
  rw [evalTime, if_neg (by rw [prechecks_pass t ht v jobs i hd hdep hearly hbase]; nofun),
    ite_verdict (u := .fail) (v := .skip) nofun] at hf
  -- the direct-reach test compares with the latest arrival exactly what the feasible tour itself does at this leg
  obtain ⟨nx, r, hrest, hlt⟩ := evalTimeCore_fail t _ _ x hf.2
  have hsuf := ((tourFeas_split t v jobs i hi).mp hbase).2
  rw [hrest] at hsuf hlt
  exact Int.not_le.mpr hlt ((feas_iff_latestArr t nx r _ _ _ _ hsuf).mp hsuf)

theorem evalActivity_ok_iff (c : Ctx) (i : Nat) (x : Act) (d : Option Dem) :
    evalActivity c i x d = .ok ↔ evalTime c.m.t c.veh c.acts i x = .ok ∧ capViolationAt c i d true = none := by
  unfold evalActivity
  cases evalTime c.m.t c.veh c.acts i x with
  | ok => rcases capViolationAt c i d true with _ | _ | _ <;> simp
  | skip => simp
  | fail => simp

theorem evalActivity_ne_fail (c : Ctx) (i : Nat) (x : Act) (dem : Option Dem)
    (htime : evalTime c.m.t c.veh c.acts i x ≠ .fail)
    (hcap : capViolationAt c i dem true ≠ some true) :
    evalActivity c i x dem ≠ .fail := by
  unfold evalActivity
  revert htime hcap
  cases evalTime c.m.t c.veh c.acts i x with
  | ok => rcases capViolationAt c i dem true with _ | _ | _ <;> simp
  | skip => simp
  | fail => simp

theorem evalActivity_noDem (c : Ctx) (i : Nat) (x : Act) :
    evalActivity c i x none = evalTime c.m.t c.veh c.acts i x := by
  unfold evalActivity capViolationAt
  cases evalTime c.m.t c.veh c.acts i x <;> rfl

/-! ## the leg / place / window scan

`scanWindows`, `scanPlaces` and `scanLegs` have one shape: a step is folded over a list and the fold ends after the first
step that says "stop". What is proved about them is proved once for that shape: a best placement is never lost, the scan
stops only at a "fail" verdict, and so the first accepted placement after a fail-free prefix survives to the end. -/

def scanList {α : Type} (step : α → Scan → Scan × Bool) : List α → Scan → Scan × Bool
  | [], sc => (sc, false)
  | a :: as, sc => if (step a sc).2 then step a sc else scanList step as (step a sc).1

section scanList
variable {α : Type} (step : α → Scan → Scan × Bool) (Q : Scan → Prop)

theorem scanList_keeps (as : List α) (hstep : ∀ a ∈ as, ∀ sc, Q sc → Q (step a sc).1) (sc : Scan) (h : Q sc) :
    Q (scanList step as sc).1 := by
  induction as generalizing sc with
  | nil => exact h
  | cons a as ih =>
    have ha := hstep a List.mem_cons_self sc h
    rw [scanList]
    split
    · exact ha
    · exact ih (fun b hb => hstep b (List.mem_cons_of_mem _ hb)) _ ha

theorem scanList_no_stop (as : List α) (h : ∀ a ∈ as, ∀ sc, (step a sc).2 = false) (sc : Scan) :
    (scanList step as sc).2 = false := by
  induction as generalizing sc with
  | nil => rfl
  | cons a as ih =>
    rw [scanList, if_neg (Bool.eq_false_iff.mp (h a List.mem_cons_self sc))]
    exact ih (fun b hb => h b (List.mem_cons_of_mem _ hb)) _

theorem scanList_reaches (pre : List α) (a : α) (post : List α) (hpre : ∀ b ∈ pre, ∀ sc, (step b sc).2 = false)
    (ha : ∀ sc, Q (step a sc).1) (hpost : ∀ b ∈ post, ∀ sc, Q sc → Q (step b sc).1) (sc : Scan) :
    Q (scanList step (pre ++ a :: post) sc).1 := by
  induction pre generalizing sc with
  | nil =>
    rw [List.nil_append, scanList]
    split
    · exact ha sc
    · exact scanList_keeps step Q post hpost _ (ha sc)
  | cons b pre ih =>
    rw [List.cons_append, scanList, if_neg (Bool.eq_false_iff.mp (hpre b List.mem_cons_self sc))]
    exact ih (fun b' hb' => hpre b' (List.mem_cons_of_mem _ hb')) _

theorem scanList_finds (as : List α) (hstop : ∀ b ∈ as, ∀ sc, (step b sc).2 = false)
    (hkeep : ∀ b ∈ as, ∀ sc, Q sc → Q (step b sc).1) (a : α) (ha : a ∈ as) (hfind : ∀ sc, Q (step a sc).1) (sc : Scan) :
    Q (scanList step as sc).1 := by
  obtain ⟨pre, post, rfl⟩ := List.append_of_mem ha
  exact scanList_reaches step Q pre a post (fun b hb => hstop b (List.mem_append_left _ hb)) hfind
    (fun b hb => hkeep b (List.mem_append_right _ (List.mem_cons_of_mem _ hb))) sc

end scanList

/-- what a reported placement must satisfy: it names a real place and window of the job and the
    model of `goal.evaluate` accepted exactly that activity at that leg -/
def Accepted (c : Ctx) (j : JobS) (f : Found) : Prop :=
  ∃ p w, j.places[f.place]? = some p ∧ w ∈ p.tws ∧ f.tw = w ∧
    evalActivity c f.index { loc := p.loc, s := w.1, e := w.2, dur := p.dur } j.dem = .ok

def GoodScan (c : Ctx) (j : JobS) (sc : Scan) : Prop := ∀ f, sc.best = some f → Accepted c j f

def NoFailAt (c : Ctx) (j : JobS) (i : Nat) : Prop :=
  ∀ p ∈ j.places, ∀ w ∈ p.tws, evalActivity c i { loc := p.loc, s := w.1, e := w.2, dur := p.dur } j.dem ≠ .fail

section
variable (c : Ctx) (j : JobS) (i : Nat)

def winStep (v : Verdict) (f : Found) (sc : Scan) : Scan × Bool :=
  match v with
  | .fail => ({ sc with violated := some true }, true)
  | .skip => ({ sc with violated := some false }, false)
  | .ok =>
    (if (match sc.best with
        | none => true
        | some b => costLt f.cost b.cost)
    then { violated := none, best := some f } else sc, false)

theorem scanWindows_eq (pi : Nat) (p : JPlace) (ws : List (Int × Int)) (sc : Scan) :
    scanWindows c j i pi p ws sc =
      scanList (fun w => winStep (evalActivity c i { loc := p.loc, s := w.1, e := w.2, dur := p.dur } j.dem)
        ⟨i, pi, w, costVector c i { loc := p.loc, s := w.1, e := w.2, dur := p.dur }⟩) ws sc := by
  induction ws generalizing sc with
  | nil => rfl
  | cons w ws ih =>
    rw [scanWindows, scanList]
    dsimp only [winStep]
    cases evalActivity c i { loc := p.loc, s := w.1, e := w.2, dur := p.dur } j.dem with
    | fail => rfl
    | skip => exact ih _
    | ok =>
      simp only [Bool.false_eq_true, if_false]
      cases sc.best with
      | none => exact ih _
      | some b => dsimp only; split <;> exact ih _

theorem winStep_best (v : Verdict) (f : Found) (sc : Scan) :
    ((winStep v f sc).1.best = sc.best ∧ (v = .ok → sc.best.isSome = true)) ∨
      (v = .ok ∧ (winStep v f sc).1.best = some f) := by
  unfold winStep
  cases v with
  | fail => exact Or.inl ⟨rfl, nofun⟩
  | skip => exact Or.inl ⟨rfl, nofun⟩
  | ok =>
    dsimp only
    cases hbest : sc.best with
    | none => exact Or.inr ⟨rfl, rfl⟩
    | some b =>
      dsimp only
      split
      · exact Or.inr ⟨rfl, rfl⟩
      · exact Or.inl ⟨hbest, fun _ => rfl⟩

theorem winStep_stop (v : Verdict) (f : Found) (sc : Scan) (h : v ≠ .fail) : (winStep v f sc).2 = false := by
  cases v with
  | fail => exact absurd rfl h
  | skip => rfl
  | ok => rfl

theorem winStep_isSome (v : Verdict) (f : Found) (sc : Scan) (h : sc.best.isSome = true ∨ v = .ok) :
    (winStep v f sc).1.best.isSome = true := by
  rcases winStep_best v f sc with ⟨hb, hv⟩ | ⟨_, hb⟩
  · rw [hb]; exact h.elim id hv
  · rw [hb]; rfl

theorem scanWindows_best_mono (pi : Nat) (p : JPlace) (ws : List (Int × Int)) (sc : Scan)
    (h : sc.best.isSome = true) : (scanWindows c j i pi p ws sc).1.best.isSome = true := by
  rw [scanWindows_eq]
  exact scanList_keeps _ (·.best.isSome = true) _ (fun w _ sc h => winStep_isSome _ _ sc (Or.inl h)) sc h

theorem scanWindows_no_stop (pi : Nat) (p : JPlace) (ws : List (Int × Int)) (sc : Scan)
    (hnf : ∀ w ∈ ws, evalActivity c i { loc := p.loc, s := w.1, e := w.2, dur := p.dur } j.dem ≠ .fail) :
    (scanWindows c j i pi p ws sc).2 = false := by
  rw [scanWindows_eq]
  exact scanList_no_stop _ _ (fun w hw sc => winStep_stop _ _ sc (hnf w hw)) sc

theorem scanWindows_finds (pi : Nat) (p : JPlace) (ws : List (Int × Int)) (sc : Scan)
    (hnf : ∀ w ∈ ws, evalActivity c i { loc := p.loc, s := w.1, e := w.2, dur := p.dur } j.dem ≠ .fail)
    (w : Int × Int) (hw : w ∈ ws)
    (hok : evalActivity c i { loc := p.loc, s := w.1, e := w.2, dur := p.dur } j.dem = .ok) :
    (scanWindows c j i pi p ws sc).1.best.isSome = true := by
  rw [scanWindows_eq]
  exact scanList_finds _ (·.best.isSome = true) ws (fun b hb sc => winStep_stop _ _ sc (hnf b hb))
    (fun b _ sc h => winStep_isSome _ _ sc (Or.inl h)) w hw (fun sc => winStep_isSome _ _ sc (Or.inr hok)) sc

theorem scanPlaces_eq (ps : List JPlace) (pi : Nat) (sc : Scan) :
    scanPlaces c j i ps pi sc = scanList (fun q => scanWindows c j i q.2 q.1 q.1.tws) (ps.zipIdx pi) sc := by
  induction ps generalizing pi sc with
  | nil => rfl
  | cons p ps ih =>
    rw [scanPlaces, List.zipIdx_cons, scanList]
    rcases scanWindows c j i pi p p.tws sc with ⟨sc', _ | _⟩
    · exact ih _ _
    · rfl

theorem scanPlaces_good (sc : Scan) (h : GoodScan c j sc) :
    GoodScan c j (scanPlaces c j i j.places 0 sc).1 := by
  rw [scanPlaces_eq]
  refine scanList_keeps _ (GoodScan c j) _ (fun q hq sc h => ?_) sc h
  rw [scanWindows_eq]
  refine scanList_keeps _ (GoodScan c j) _ (fun w hw sc h f hf => ?_) sc h
  -- a step either leaves the best placement as it was or replaces it by the one just accepted
  rcases winStep_best _ _ sc with ⟨hb, _⟩ | ⟨hv, hb⟩
  · exact h f (hb ▸ hf)
  · obtain rfl := Option.some.inj (hb ▸ hf)
    exact ⟨q.1, w, List.mem_zipIdx_iff_getElem?.mp hq, hw, rfl, hv⟩

theorem scanPlaces_best_mono (ps : List JPlace) (pi : Nat) (sc : Scan)
    (h : sc.best.isSome = true) : (scanPlaces c j i ps pi sc).1.best.isSome = true := by
  rw [scanPlaces_eq]
  exact scanList_keeps _ (·.best.isSome = true) _ (fun q _ => scanWindows_best_mono c j i q.2 q.1 q.1.tws) sc h

theorem scanPlaces_no_stop (ps : List JPlace) (pi : Nat) (sc : Scan)
    (hnf : ∀ p ∈ ps, ∀ w ∈ p.tws, evalActivity c i { loc := p.loc, s := w.1, e := w.2, dur := p.dur } j.dem ≠ .fail) :
    (scanPlaces c j i ps pi sc).2 = false := by
  rw [scanPlaces_eq]
  exact scanList_no_stop _ _
    (fun q hq sc => scanWindows_no_stop c j i q.2 q.1 q.1.tws sc (hnf q.1 (List.fst_mem_of_mem_zipIdx hq))) sc

theorem scanPlaces_finds (ps : List JPlace) (pi : Nat) (sc : Scan)
    (hnf : ∀ p ∈ ps, ∀ w ∈ p.tws, evalActivity c i { loc := p.loc, s := w.1, e := w.2, dur := p.dur } j.dem ≠ .fail)
    (p : JPlace) (hp : p ∈ ps) (w : Int × Int) (hw : w ∈ p.tws)
    (hok : evalActivity c i { loc := p.loc, s := w.1, e := w.2, dur := p.dur } j.dem = .ok) :
    (scanPlaces c j i ps pi sc).1.best.isSome = true := by
  obtain ⟨q, hq, rfl⟩ := List.mem_map.mp (by rw [List.zipIdx_map_fst]; exact hp : p ∈ (ps.zipIdx pi).map Prod.fst)
  rw [scanPlaces_eq]
  exact scanList_finds _ (·.best.isSome = true) _
    (fun b hb sc => scanWindows_no_stop c j i b.2 b.1 b.1.tws sc (hnf b.1 (List.fst_mem_of_mem_zipIdx hb)))
    (fun b _ => scanWindows_best_mono c j i b.2 b.1 b.1.tws) q hq
    (fun sc => scanWindows_finds c j i q.2 q.1 q.1.tws sc (hnf q.1 hp) w hw hok) sc

end

theorem scanLegs_eq (c : Ctx) (j : JobS) (is : List Nat) (sc : Scan) :
    scanLegs c j is sc = (scanList (fun i => scanPlaces c j i j.places 0) is sc).1 := by
  induction is generalizing sc with
  | nil => rfl
  | cons i is ih =>
    rw [scanLegs, scanList]
    rcases scanPlaces c j i j.places 0 sc with ⟨sc', _ | _⟩
    · exact ih _
    · rfl

theorem scanLegs_good (c : Ctx) (j : JobS) (is : List Nat) (sc : Scan) (h : GoodScan c j sc) :
    GoodScan c j (scanLegs c j is sc) := by
  rw [scanLegs_eq]
  exact scanList_keeps _ (GoodScan c j) _ (fun i _ => scanPlaces_good c j i) sc h

theorem scanLegs_reaches (c : Ctx) (j : JobS) (pre : List Nat) (i : Nat) (post : List Nat) (sc : Scan)
    (hpre : ∀ k ∈ pre, NoFailAt c j k) (hi : NoFailAt c j i)
    (p : JPlace) (hp : p ∈ j.places) (w : Int × Int) (hw : w ∈ p.tws)
    (hok : evalActivity c i { loc := p.loc, s := w.1, e := w.2, dur := p.dur } j.dem = .ok) :
    (scanLegs c j (pre ++ i :: post) sc).best.isSome = true := by
  rw [scanLegs_eq]
  exact scanList_reaches _ (·.best.isSome = true) pre i post
    (fun k hk sc => scanPlaces_no_stop c j k j.places 0 sc (hpre k hk))
    (fun sc => scanPlaces_finds c j i j.places 0 sc hi p hp w hw hok)
    (fun k _ => scanPlaces_best_mono c j k j.places 0) sc

theorem scanLegs_finds (c : Ctx) (j : JobS) (is : List Nat) (sc : Scan)
    (hnf : ∀ i ∈ is, NoFailAt c j i)
    (i : Nat) (hi : i ∈ is) (p : JPlace) (hp : p ∈ j.places) (w : Int × Int) (hw : w ∈ p.tws)
    (hok : evalActivity c i { loc := p.loc, s := w.1, e := w.2, dur := p.dur } j.dem = .ok) :
    (scanLegs c j is sc).best.isSome = true := by
  obtain ⟨pre, post, rfl⟩ := List.append_of_mem hi
  exact scanLegs_reaches c j pre i post sc (fun k hk => hnf k (List.mem_append_left _ hk)) (hnf i hi) p hp w hw hok

/-- **whatever `eval_job_insertion_in_route` (model) returns was accepted by the constraint model at
    exactly that leg, place and window** — for `Any` and every `Concrete(p)` -/
theorem evalJob_accepted (c : Ctx) (j : JobS) (pos : Position) (f : Found)
    (h : evalJob c j pos = some f) : Accepted c j f := by
  unfold evalJob at h
  split at h
  · cases h
  · exact scanLegs_good c j _ {} nofun f h

/-- **C06 soundness, end to end for single-task jobs (time part)**: a success reported by the
    evaluator model, on a time-feasible tour, names a placement whose insertion the step-by-step
    simulation finds time-feasible. (Time and capacity of an accepted activity: `C06Multi.evalActivity_sound`.) -/
theorem evalJob_sound_time (c : Ctx) (j : JobS) (pos : Position) (f : Found)
    (hi : f.index ≤ c.acts.length) (hbase : tourFeas c.m.t c.veh c.acts = true)
    (h : evalJob c j pos = some f) :
    ∃ p w, j.places[f.place]? = some p ∧ w ∈ p.tws ∧ f.tw = w ∧
      tourFeas c.m.t c.veh (insertAt c.acts f.index { loc := p.loc, s := w.1, e := w.2, dur := p.dur }) = true := by
  obtain ⟨p, w, hp, hw, hf, hok⟩ := evalJob_accepted c j pos f h
  exact ⟨p, w, hp, hw, hf,
    evalTime_sound c.m.t c.veh c.acts f.index _ hi hbase ((evalActivity_ok_iff c _ _ _).mp hok).1⟩

theorem acts_length (c : Ctx) : c.acts.length = c.tour.length := List.length_map _
theorem dems_length (c : Ctx) : c.dems.length = c.tour.length := List.length_map _
theorem legCount_eq (c : Ctx) : legCount c = c.tour.length + 1 := by unfold legCount; split <;> rfl

theorem evalJob_any_isSome (c : Ctx) (j : JobS) (hroute : evalRoute c j = true) (i : Nat) (hi : i ≤ c.tour.length)
    (hnf : ∀ k, k ≤ i → NoFailAt c j k) (p : JPlace) (hp : p ∈ j.places) (w : Int × Int) (hw : w ∈ p.tws)
    (hok : evalActivity c i { loc := p.loc, s := w.1, e := w.2, dur := p.dur } j.dem = .ok) :
    (evalJob c j .any).isSome = true := by
  obtain ⟨m, hm⟩ : ∃ m, c.tour.length + 1 = i + (m + 1) := ⟨c.tour.length - i, by omega⟩
  unfold evalJob
  rw [hroute, legCount_eq, List.range_eq_range', hm, ← List.range'_append_1, List.range'_succ, Nat.zero_add]
  exact scanLegs_reaches c j _ i _ {} (fun k hk => hnf k (Nat.le_of_lt (Nat.zero_add i ▸ (List.mem_range'_1.mp hk).2)))
    (hnf i (Nat.le_refl i)) p hp w hw hok

theorem after_snd_ge (t : Nat → Nat → Int) (ht : ∀ a b, 0 ≤ t a b) (xs : List Act) (hd : ∀ a ∈ xs, 0 ≤ a.dur)
    (l : Nat) (dep : Int) : dep ≤ (after t xs l dep).2 := by
  induction xs generalizing l dep with
  | nil => exact Int.le_refl dep
  | cons a r ih =>
    rw [after_cons]
    have h1 := ih (fun b hb => hd b (List.mem_cons_of_mem _ hb)) a.loc (depOf a (dep + t l a.loc))
    have h2 := ((depOf_le_iff a (dep + t l a.loc) _).mp (Int.le_refl _)).1
    have := ht l a.loc
    have := hd a List.mem_cons_self
    omega

theorem timeOk_of_evalTime_ok (c : Ctx) (j : JobS)
    (ht : ∀ a b, 0 ≤ c.m.t a b) (hd : ∀ a ∈ c.acts, 0 ≤ a.dur)
    (hearly : c.veh.earliest ≤ c.veh.dep)
    (i : Nat) (p : JPlace) (hp : p ∈ j.places) (w : Int × Int) (hw : w ∈ p.tws)
    (hok : evalTime c.m.t c.veh c.acts i { loc := p.loc, s := w.1, e := w.2, dur := p.dur } = .ok) :
    j.places.any (fun p => p.tws.any (fun w =>
      (match c.veh.endAt with
        | some (_, T) => decide (w.1 ≤ T)
        | none => true) && decide (c.veh.earliest ≤ w.2))) = true := by
  obtain ⟨_, hlate, hcore⟩ := (evalTime_ok_iff c.m.t c.veh c.acts i _).mp hok
  have harr := evalTimeCore_ok_arrival c.m.t _ _ _ hcore
  dsimp only at harr
  have hge := after_snd_ge c.m.t ht (c.acts.take i) (fun a ha => hd a (List.mem_of_mem_take ha)) c.veh.startLoc c.veh.dep
  have htp := ht (after c.m.t (c.acts.take i) c.veh.startLoc c.veh.dep).1 p.loc
  refine List.any_eq_true.mpr ⟨p, hp, List.any_eq_true.mpr ⟨w, hw, ?_⟩⟩
  rw [Bool.and_eq_true, decide_eq_true_eq]
  refine ⟨?_, by omega⟩
  cases he : c.veh.endAt with
  | none => rfl
  | some q =>
    rw [tooLate, he, decide_eq_false_iff_not, Int.not_lt] at hlate
    exact decide_eq_true hlate

theorem evalRoute_of_feasible_time (c : Ctx) (j : JobS) (hdem : j.dem = none)
    (ht : ∀ a b, 0 ≤ c.m.t a b) (hd : ∀ a ∈ c.acts, 0 ≤ a.dur)
    (hearly : c.veh.earliest ≤ c.veh.dep)
    (i : Nat) (p : JPlace) (hp : p ∈ j.places) (w : Int × Int) (hw : w ∈ p.tws)
    (hok : evalTime c.m.t c.veh c.acts i { loc := p.loc, s := w.1, e := w.2, dur := p.dur } = .ok) :
    evalRoute c j = true := by
  unfold evalRoute
  simp only [hdem, Bool.and_eq_true]
  exact ⟨timeOk_of_evalTime_ok c j ht hd hearly i p hp w hw hok, Bool.or_eq_true_iff.mpr (Or.inl rfl)⟩

/-- **C06 completeness of `Any` (time part)**: for a job without demand on a feasible tour with non-negative travel
    times and service durations: if the step-by-step simulation finds the tour with the job inserted at SOME leg, place
    and window feasible, then `eval_job_insertion_in_route(Any)` (model) succeeds. No hypothesis is about an internal
    value of the model. -/
theorem evalJob_any_complete_time' (c : Ctx) (j : JobS) (hdem : j.dem = none)
    (ht : ∀ a b, 0 ≤ c.m.t a b) (hd : ∀ a ∈ c.acts, 0 ≤ a.dur)
    (hdep : 0 ≤ c.veh.dep) (hearly : c.veh.earliest ≤ c.veh.dep)
    (hbase : tourFeas c.m.t c.veh c.acts = true)
    (i : Nat) (hi : i ≤ c.acts.length) (p : JPlace) (hp : p ∈ j.places) (w : Int × Int) (hw : w ∈ p.tws)
    (hpd : 0 ≤ p.dur) (hww : w.1 ≤ w.2)
    (hfeas : tourFeas c.m.t c.veh (insertAt c.acts i { loc := p.loc, s := w.1, e := w.2, dur := p.dur }) = true) :
    (evalJob c j .any).isSome = true := by
  have hok := evalTime_complete c.m.t ht c.veh c.acts i _ hi hd hpd hww hdep hearly hbase hfeas
  have hlen := acts_length c
  refine evalJob_any_isSome c j (evalRoute_of_feasible_time c j hdem ht hd hearly i p hp w hw hok) i (hlen ▸ hi)
    (fun k hk p' _ w' _ => ?_) p hp w hw ?_ <;> rw [hdem, evalActivity_noDem]
  · exact evalTime_never_stops c.m.t ht c.veh c.acts k _ (Nat.le_trans hk hi) hd hdep hearly hbase
  · exact hok

def exT : Nat → Nat → Int := fun a b => if a = b then 0 else 5
def exV : Veh := { startLoc := 0, earliest := 0, dep := 0, endAt := some (0, 40) }
def exJobs : List Act := [{ loc := 1, s := 10, e := 20, dur := 2 }, { loc := 2, s := 0, e := 17, dur := 1 }]
-- base tour feasible (waits at the first job, reaches the second exactly at its window end)
example : tourFeas exT exV exJobs = true := by decide +kernel
-- inserting at the end is accepted and feasible; inserting in the middle is rejected and infeasible
example : evalTime exT exV exJobs 2 { loc := 1, s := 0, e := 30, dur := 3 } = .ok ∧
    tourFeas exT exV (insertAt exJobs 2 { loc := 1, s := 0, e := 30, dur := 3 }) = true := by decide +kernel
example : evalTime exT exV exJobs 1 { loc := 1, s := 0, e := 30, dur := 3 } = .skip ∧
    tourFeas exT exV (insertAt exJobs 1 { loc := 1, s := 0, e := 30, dur := 3 }) = false := by decide +kernel
example : evalTime exT { exV with endAt := none } exJobs 2 { loc := 1, s := 0, e := 22, dur := 3 } = .skip := by
  decide +kernel

end C06
